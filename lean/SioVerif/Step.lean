/-
  Small-step transition systems: the shared frame for every concurrent / history model.
  `step s l = none` means label `l` is not enabled in `s`.
-/
namespace SioVerif

/-- the invariant rule for histories that are a fold of a total step function -/
theorem foldl_inv {σ α : Type} (f : σ → α → σ) (Inv : σ → Prop) (hs : ∀ s a, Inv s → Inv (f s a)) :
    ∀ (l : List α) s, Inv s → Inv (l.foldl f s) := by
  intro l
  induction l with
  | nil => exact fun _ h => h
  | cons a l ih => exact fun s h => ih _ (hs s a h)

/-- a history `g` that every step extends by what `h` selects from the operation is the `filterMap` of the operations -/
theorem foldl_hist {σ α β : Type} (f : σ → α → σ) (g : σ → List β) (h : α → Option β)
    (hs : ∀ s a, g (f s a) = g s ++ (h a).toList) : ∀ (l : List α) s, g (l.foldl f s) = g s ++ l.filterMap h := by
  intro l
  induction l with
  | nil => simp
  | cons a l ih =>
    intro s
    rw [List.foldl_cons, ih, hs, List.filterMap_cons]
    cases h a <;> simp

structure Sys (σ lbl ε : Type) where
  init : σ
  step : σ → lbl → Option (σ × List ε)

namespace Sys
variable {σ lbl ε : Type}

/-- run a schedule (list of labels); `none` if some label was not enabled -/
def run (S : Sys σ lbl ε) : σ → List lbl → Option (σ × List ε)
  | s, [] => some (s, [])
  | s, l :: ls =>
    match S.step s l with
    | none => none
    | some (s', es) =>
      match run S s' ls with
      | none => none
      | some (s'', es') => some (s'', es ++ es')

def ReachableFrom (S : Sys σ lbl ε) (s0 s : σ) : Prop := ∃ ls es, S.run s0 ls = some (s, es)
def Reachable (S : Sys σ lbl ε) (s : σ) : Prop := S.ReachableFrom S.init s

/-- a property kept by every step whose label satisfies `P` holds after every run made of such labels -/
theorem inv_run_on (S : Sys σ lbl ε) (P : lbl → Prop) (Inv : σ → Prop)
    (hs : ∀ s l s' es, P l → Inv s → S.step s l = some (s', es) → Inv s') :
    ∀ ls, (∀ l ∈ ls, P l) → ∀ s s' es, Inv s → S.run s ls = some (s', es) → Inv s' := by
  intro ls
  induction ls with
  | nil => intro _ s s' es h hr; cases hr; exact h
  | cons l ls ih =>
    intro hP s s' es h hr
    simp only [run] at hr
    split at hr
    · cases hr
    · rename_i s1 es1 hstep
      split at hr <;> cases hr
      rename_i hrun
      exact ih (fun l' hl' => hP l' (List.mem_cons_of_mem _ hl')) s1 _ _ (hs s l s1 es1 (hP l List.mem_cons_self) h hstep) hrun

/-- the generic invariant rule: an inductive invariant holds in every reachable state -/
theorem inv_of_step (S : Sys σ lbl ε) (Inv : σ → Prop) (h0 : Inv S.init)
    (hs : ∀ s l s' es, Inv s → S.step s l = some (s', es) → Inv s') :
    ∀ s, S.Reachable s → Inv s := by
  intro s ⟨ls, es, hr⟩
  exact inv_run_on S (fun _ => True) Inv (fun s l s' es _ => hs s l s' es) ls (fun _ _ => trivial) S.init s es h0 hr

end Sys
end SioVerif
