import SioVerif.Basic
/-
  Go's `encoding/base64.StdEncoding` (padded, non-strict) — modelled concretely because the
  Engine.IO base64 round-trip theorem needs it. The decoder transcribes `decodeQuantum`:
  CR/LF are skipped anywhere, padding is required, trailing garbage after padding is an error,
  non-zero padding bits are accepted (non-strict).
-/
namespace SioVerif.B64

def encChar (s : Nat) : UInt8 :=
  if s < 26 then UInt8.ofNat (65 + s)
  else if s < 52 then UInt8.ofNat (97 + (s - 26))
  else if s < 62 then UInt8.ofNat (48 + (s - 52))
  else if s = 62 then 43 else 47

def decChar (c : UInt8) : Option Nat :=
  let n := c.toNat
  if 65 ≤ n ∧ n ≤ 90 then some (n - 65)
  else if 97 ≤ n ∧ n ≤ 122 then some (n - 97 + 26)
  else if 48 ≤ n ∧ n ≤ 57 then some (n - 48 + 52)
  else if n = 43 then some 62
  else if n = 47 then some 63
  else none

def pad : UInt8 := 61
def isNL (c : UInt8) : Bool := c = 10 || c = 13

def enc : Bytes → Bytes
  | [] => []
  | [a] => [encChar (a.toNat / 4), encChar (a.toNat % 4 * 16), pad, pad]
  | [a, b] => [encChar (a.toNat / 4), encChar (a.toNat % 4 * 16 + b.toNat / 16),
               encChar (b.toNat % 16 * 4), pad]
  | a :: b :: c :: rest =>
    encChar (a.toNat / 4) :: encChar (a.toNat % 4 * 16 + b.toNat / 16) ::
    encChar (b.toNat % 16 * 4 + c.toNat / 64) :: encChar (c.toNat % 64) :: enc rest

/-- `base64.StdEncoding.EncodedLen` -/
def encodedLen (n : Nat) : Nat := (n + 2) / 3 * 4

def skipNL : Bytes → Bytes
  | [] => []
  | c :: rest => if isNL c then skipNL rest else c :: rest

/-- bytes of a quantum from its sextets -/
def b1 (s0 s1 : Nat) : UInt8 := UInt8.ofNat (s0 * 4 + s1 / 16)
def b2 (s1 s2 : Nat) : UInt8 := UInt8.ofNat (s1 % 16 * 16 + s2 / 4)
def b3 (s2 s3 : Nat) : UInt8 := UInt8.ofNat (s2 % 4 * 64 + s3)

/-- `acc`: sextets already collected in the current quantum (fewer than four).
    `none` = CorruptInputError. -/
def decAux : List Nat → Bytes → Option Bytes
  | acc, [] => if acc.isEmpty then some [] else none
  | acc, c :: rest =>
    match decChar c with
    | some s =>
      match acc with
      | [s0, s1, s2] => (decAux [] rest).map (fun t => b1 s0 s1 :: b2 s1 s2 :: b3 s2 s :: t)
      | _ => decAux (acc ++ [s]) rest
    | none =>
      if isNL c then decAux acc rest
      else if c ≠ pad then none
      else
        match acc with
        | [s0, s1] =>
          match skipNL rest with
          | [] => none
          | p :: rest' =>
            if p ≠ pad then none
            else if (skipNL rest').isEmpty then some [b1 s0 s1] else none
        | [s0, s1, s2] =>
          if (skipNL rest).isEmpty then some [b1 s0 s1, b2 s1 s2] else none
        | _ => none

def dec (inp : Bytes) : Option Bytes := decAux [] inp

end SioVerif.B64
