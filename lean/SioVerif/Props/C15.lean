import SioVerif.Lemmas.Backoff
/-
  C15 — Clients reconnect with bounded back-off and deliver what was emitted offline.

  * "retries with delays that stay within (0, ReconnectionDelayMax]"  → `backoff_in_range`
    (every attempt number, including those for which 2^n or the product overflows, every jitter draw)
  * "… and start from ReconnectionDelay"                              → `backoff_starts_at_min`
  * "gives up after exactly ReconnectionAttempts failures announcing reconnect_failed once"
                                                                      → `attempts_exact`
  * "reconnects once the server is reachable again"                    → `reconnects_when_reachable`
  * "non-volatile events emitted while disconnected are delivered exactly once, in order, after it
     (re)connects; volatile ones are dropped"                          → `offline_fifo`
-/
namespace SioVerif.C15
open SioVerif.Backoff

theorem wrap64_range (x : Int) : -(2 ^ 63) ≤ wrap64 x ∧ wrap64 x < 2 ^ 63 := by
  unfold wrap64
  omega

theorem wrap64_id (x : Int) (h1 : -(2 ^ 63) ≤ x) (h2 : x < 2 ^ 63) : wrap64 x = x := by
  unfold wrap64
  omega

/-- every delay is in (0, max], whatever the attempt number, the overflow behaviour of the power
    and the jitter draw — for every positive maximum -/
theorem backoff_in_range (R : Rounding) (min max : Int) (jitter : Bool) (pow dev : Int) (plus : Bool)
    (h0 : 0 < max) :
    0 < duration R min max jitter pow dev plus ∧ duration R min max jitter pow dev plus ≤ max :=
  clamp_range R h0 _

/-- While no int64 operation wraps and `float64` holds every value exactly (the whole jitter band
    around `p = dmin * pow` lies in (0, 2^53]), the delay is the jittered count, capped by the maximum. -/
theorem duration_eq_min (R : Rounding) {dmin dmax pow dev p : Int} (jitter plus : Bool) (hp : dmin * pow = p)
    (hdev : 0 ≤ dev) (hlo : dev < p) (hhi : p + dev ≤ 2 ^ 53) (hd : 0 < dmax ∧ dmax ≤ 2 ^ 53) :
    duration R dmin dmax jitter pow dev plus = Min.min (jittered p dev jitter plus) dmax := by
  -- every draw of the count lies in the band, so in (0, 2^53]: neither `wrap64` nor `rn` changes it
  have hj := fun j => jittered_band p hdev j plus
  have hw : ∀ j, wrap64 (jittered p dev j plus) = jittered p dev j plus := fun j =>
    wrap64_id _ (by have := hj j; omega) (by have := hj j; omega)
  rw [← clamp_eq_min R (by have := hj jitter; omega) hd]
  -- `duration` unfolds to `clamp` of the count with its wraps; without them that count is `jittered`
  show clamp R.rn dmax _ = _
  rw [hp, show wrap64 p = p from hw false]
  cases jitter
  · rfl
  · cases plus <;> exact congrArg _ (hw true)

/-- the first delay is ReconnectionDelay itself (no jitter), or within the jitter deviation of it -/
theorem backoff_starts_at_min (R : Rounding) (min max dev : Int) (plus jitter : Bool)
    (hmin : 0 < min) (hle : min ≤ max) (h1 : max ≤ 2 ^ 53) (hd0 : 0 ≤ dev) (hd1 : dev < min) (hd2 : min + dev ≤ max) :
    duration R min max false (pow2 0) dev plus = min ∧
    (min - dev ≤ duration R min max jitter (pow2 0) dev plus ∧ duration R min max jitter (pow2 0) dev plus ≤ min + dev) := by
  have h := fun j => duration_eq_min R (pow := pow2 0) j plus (Int.mul_one min) hd0 hd1 (Int.le_trans hd2 h1)
    ⟨Int.lt_of_lt_of_le hmin hle, h1⟩
  have hb := jittered_band min hd0 jitter plus
  rw [h false, h jitter, Int.min_eq_left (Int.le_trans hb.2 hd2)]
  exact ⟨Int.min_eq_left hle, hb⟩

/-- without jitter and while the product fits: delay = min(min·2^n, max) -/
theorem backoff_doubles (R : Rounding) (min max : Int) (n : Nat) (hmin : 0 < min) (h0 : 0 < max) (h1 : max ≤ 2 ^ 53)
    (hfit : min * pow2 n ≤ 2 ^ 53) :
    duration R min max false (pow2 n) 0 false = Min.min (min * pow2 n) max :=
  duration_eq_min R false false rfl (Int.le_refl 0) (Int.mul_pos hmin (pow2_pos n)) ((Int.add_zero _).symm ▸ hfit) ⟨h0, h1⟩

theorem reconnectLoop_all_fail (N : Nat) (hN : 0 < N) : ∀ (j k : Nat), k + j = N →
    countAttempts (reconnectLoop N k (List.replicate j false ++ [true])) = j ∧
    countFailed (reconnectLoop N k (List.replicate j false ++ [true])) = 1 := by
  intro j
  induction j with
  | zero =>
    intro k hk
    rw [reconnectLoop_limit hN (by omega)]
    exact ⟨rfl, rfl⟩
  | succ j ih =>
    intro k hk
    obtain ⟨h1, h2⟩ := ih (k + 1) (by omega)
    -- a failed round adds one attempt and no `reconnect_failed`
    rw [List.replicate_succ, List.cons_append, reconnectLoop_cons (by omega)]
    exact ⟨congrArg (· + 1) h1, h2⟩

/-- server unreachable for N attempts (N = ReconnectionAttempts > 0): exactly N attempts are made and
    reconnect_failed is announced exactly once — the next attempt is never made even if it would succeed -/
theorem attempts_exact (N : Nat) (hN : 0 < N) :
    countAttempts (reconnectLoop N 0 (List.replicate N false ++ [true])) = N ∧
    countFailed (reconnectLoop N 0 (List.replicate N false ++ [true])) = 1 :=
  reconnectLoop_all_fail N hN N 0 (Nat.zero_add N)

/-- the server comes back at attempt j (within the limit, or no limit): the loop ends with
    `reconnect j` and never announces failure -/
theorem reconnects_when_reachable (N : Nat) : ∀ (j k : Nat), (N = 0 ∨ k + j < N) →
    countFailed (reconnectLoop N k (List.replicate j false ++ [true])) = 0 ∧
    ∃ pre, reconnectLoop N k (List.replicate j false ++ [true]) = pre ++ [.reconnected (k + j + 1)] := by
  intro j
  induction j with
  | zero =>
    intro k hk
    rw [List.replicate_zero, List.nil_append, reconnectLoop_cons (by omega)]
    exact ⟨rfl, [.delay k, .attempt (k + 1)], rfl⟩
  | succ j ih =>
    intro k hk
    obtain ⟨h1, pre, h2⟩ := ih (k + 1) (by omega)
    rw [List.replicate_succ, List.cons_append, reconnectLoop_cons (by omega)]
    exact ⟨h1, .delay k :: .attempt (k + 1) :: .error :: pre, by rw [h2, Nat.add_right_comm k 1 j]; rfl⟩

/-- offline emits: the non-volatile ones, each once, in emission order; volatile ones never -/
theorem offline_fifo (emits : List Emit) :
    (offlineThenConnect emits) = (emits.filter (fun e => !e.volatile)).map (·.id) ∧
    (∀ e ∈ emits, e.volatile = true → (∀ e' ∈ emits, e'.id = e.id → e' = e) → e.id ∉ offlineThenConnect emits) := by
  refine ⟨rfl, fun e _ hv huniq hmem => ?_⟩
  obtain ⟨e', he', hid⟩ := List.mem_map.mp hmem
  obtain ⟨he', hv'⟩ := List.mem_filter.mp he'
  rw [huniq e' he' hid, hv] at hv'
  cases hv'

/-! non-vacuity -/
example : reconnectLoop 2 0 [false, false, true] =
    [.delay 0, .attempt 1, .error, .delay 1, .attempt 2, .error, .failed] := by decide
example : reconnectLoop 0 0 [false, true] = [.delay 0, .attempt 1, .error, .delay 1, .attempt 2, .reconnected 2] := by decide

end SioVerif.C15
