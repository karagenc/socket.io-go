import SioVerif.Inst
import SioVerif.Lemmas.Batcher
import SioVerif.Lemmas.EioCodec
import SioVerif.Model.Limits
/-
  C13 (batcher half) — "A client never sends a long-polling request whose batch of several packets
  exceeds the announced maxPayload, and batching neither drops, duplicates nor reorders packets."
  Inbound half — "The server never accepts or buffers an inbound message larger than MaxBufferSize on
  any transport, however its size is declared or not declared ...; every message within the limit
  announced in the handshake is accepted": `never_accepts_or_buffers_larger`, `accepts_within_limit`,
  `disabled_accepts_all` over the decision model of the two server transports (Model/Limits.lean),
  which the limits rig compares with the real server at sizes around every limit.
-/
namespace SioVerif.C13
open SioVerif.Batcher SioVerif.Eio

/-- nothing dropped, duplicated or reordered: the batches concatenate to the input -/
theorem split_concat (max : Nat) (xs : List Nat) : (split max xs).flatten = xs :=
  go_flatten max [] 0 xs

theorem split_no_empty_batch (max : Nat) (xs : List Nat) : ∀ b ∈ split max xs, b ≠ [] :=
  fun b hb => (go_batches max [] 0 xs (.inl ⟨rfl, rfl⟩) b hb).1

/-- a batch of several packets never exceeds maxPayload (for every vector of sizes, every limit) -/
theorem split_bounded (max : Nat) (xs : List Nat) :
    ∀ b ∈ split max xs, 2 ≤ b.length → payloadLen b ≤ max :=
  fun b hb => (go_batches max [] 0 xs (.inl ⟨rfl, rfl⟩) b hb).2

theorem batches_concat (max : Nat) (polling : Bool) (xs : List Nat) :
    (batches max polling xs).flatten = xs := by
  unfold batches
  split
  · exact split_concat max xs
  · split
    · rename_i h; simp at h; simp [h]
    · simp

/-- `payloadLen` of the encoded lengths is the real length of the long-polling body -/
theorem payloadLen_is_wire_length (ps : List Packet) :
    (encodePayloads C11P ps).length = payloadLen (ps.map (encodedLen false)) := by
  rw [payloads_length]
  induction ps using encodedPayloadsLen.induct with
  | case1 => rfl
  | case2 p => rfl
  | case3 p q rest ih =>
    rw [encodedPayloadsLen, ih]
    rfl
where C11P : Params := Inst.eioParams

/-! ### inbound limits -/

open SioVerif.Limits in
/-- whatever the declaration (Content-Length, truthful or not, or none): with a limit, nothing larger
    than the limit is accepted and never more than limit+1 bytes of it are held -/
theorem never_accepts_or_buffers_larger (limit : Nat) (hl : limit ≠ 0) (declared : Option Nat) (actual : Nat) :
    ((pollingPost limit declared actual).accepted = true → actual ≤ limit) ∧
    (pollingPost limit declared actual).buffered ≤ limit + 1 ∧
    ((wsMessage limit actual).accepted = true → actual ≤ limit) ∧
    (wsMessage limit actual).buffered ≤ limit + 1 := by
  -- with a limit, a message is refused at once on its declaration or treated as it is on the WebSocket
  let Q (r : Result) := (r.accepted = true → actual ≤ limit) ∧ r.buffered ≤ limit + 1
  have hws : Q (wsMessage limit actual) := by
    rw [wsMessage, if_neg hl]
    split
    · exact ⟨Bool.noConfusion, Nat.le_refl _⟩
    · rename_i h
      exact ⟨fun _ => Nat.not_lt.mp h, Nat.le_succ_of_le (Nat.not_lt.mp h)⟩
  have hp : Q (pollingPost limit declared actual) := by
    rw [wsMessage, if_neg hl] at hws
    unfold pollingPost
    rw [if_neg hl]
    cases declared with
    | none => exact hws
    | some d => exact ite_ind Q ⟨Bool.noConfusion, Nat.zero_le _⟩ hws
  exact ⟨hp.1, hp.2, hws⟩

open SioVerif.Limits in
/-- every message within the limit is accepted, on both transports, declared truthfully or not at all -/
theorem accepts_within_limit (limit actual : Nat) (h : actual ≤ limit) :
    (pollingPost limit (some actual) actual).accepted = true ∧ (pollingPost limit none actual).accepted = true ∧
    (wsMessage limit actual).accepted = true := by
  unfold pollingPost wsMessage
  by_cases hl : limit = 0
  · simp [hl]
  · have h1 : ¬ actual > limit := by omega
    simp [hl, h1]

open SioVerif.Limits in
theorem disabled_accepts_all (declared : Option Nat) (actual : Nat) :
    (pollingPost 0 declared actual).accepted = true ∧ (wsMessage 0 actual).accepted = true := by
  simp [pollingPost, wsMessage]

open SioVerif.Limits in
/-- the two halves meet: with the server's limit announced as maxPayload, every batch of several packets the client's batcher forms
    is a POST body the server's long-polling transport accepts (declared truthfully, as the client does) -/
theorem client_batches_fit_server_limit (max : Nat) (xs : List Nat) :
    ∀ b ∈ split max xs, 2 ≤ b.length → (pollingPost max (some (payloadLen b)) (payloadLen b)).accepted = true := by
  intro b hb hl
  exact (accepts_within_limit max (payloadLen b) (split_bounded max xs b hb hl)).1

/-- the limit is installed on every inbound path (read from the source by the translator) -/
theorem limits_installed :
    Gen.eioPollingBodyLimited = true ∧ Gen.eioWsServerReadLimitSet = true ∧ Gen.eioWsClientReadLimitLifted = true := by decide

/-- the loop as it was before the repair: negative witnesses (D7) -/
theorem Legacy.split_overflow :
    Legacy.split 10 [5, 5, 5] = [[5], [5, 5]] ∧ payloadLen [5, 5] = 11 := by decide
theorem Legacy.empty_packets_uncounted :
    Legacy.split 4 [1, 1, 1] = [[1, 1, 1]] ∧ payloadLen [1, 1, 1] = 5 := by decide

/-! non-vacuity -/
example : split 10 [5, 5, 5] = [[5], [5], [5]] := by decide
example : split 11 [5, 5, 5] = [[5, 5], [5]] := by decide

end SioVerif.C13
