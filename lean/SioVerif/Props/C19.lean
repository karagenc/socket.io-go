import SioVerif.Gen.Consts
import SioVerif.Lemmas.Queue
/-
  C19 — Queued packets are sent without waiting for unrelated traffic (no lost wake-up).

  * "returned by the poll request that is pending or arrives next … never sits in an internal queue
     until a heartbeat, a poll timeout or some other packet happens to flush it"
        → `pollqueue_no_lost_wakeup`, `packetqueue_no_lost_wakeup` (for every number of consumers and
          producers, every burst, every interleaving of the atomic steps), `handover_enabled`
  * "a poll never answers empty while packets are queued" → `poll_answer_takes_all`
  The channel capacities are the ones the translator reads from `newPollQueue` / `newPacketQueue`;
  with capacity 0 (the original `pollQueue`) the side condition `1 ≤ cap` fails and
  `Legacy.pollqueue_lost_wakeup` exhibits the stuck state.
-/
namespace SioVerif.C19
open SioVerif SioVerif.Q

theorem no_lost_wakeup (cap n : Nat) (hcap : 1 ≤ cap) : ∀ s, (sys cap n).Reachable s → ¬ Stuck s :=
  fun s hr => inv_not_stuck s (inv_reachable hcap n s hr)

/-- long-polling queue, with the capacity found in the source -/
theorem pollqueue_no_lost_wakeup (n : Nat) :
    ∀ s, (sys Gen.chanPollQueueReady n).Reachable s → ¬ Stuck s :=
  no_lost_wakeup Gen.chanPollQueueReady n (by decide)

/-- Socket.IO send queue (two-step add), with the capacity found in the source -/
theorem packetqueue_no_lost_wakeup (n : Nat) :
    ∀ s, (sys Gen.chanPacketQueueReady n).Reachable s → ¬ Stuck s :=
  no_lost_wakeup Gen.chanPacketQueueReady n (by decide)

theorem index_of_mem (l : List CPc) (x : CPc) (h : x ∈ l) : ∃ i : Nat, l[i]? = some x :=
  List.getElem?_of_mem h

/-- whenever packets are queued and a consumer waits, a step other than the timeout is enabled that
    moves the hand-over forward (wake-up, pending signal, or a `get` that is about to happen) -/
theorem handover_enabled (cap n : Nat) (hcap : 1 ≤ cap) (s : St) (hr : (sys cap n).Reachable s)
    (hp : s.packets ≠ []) (c : Nat) (hc : s.consumers[c]? = some .parked) :
    ∃ l s' es, step cap s l = some (s', es) ∧ (∀ k, l ≠ .timeout k) := by
  rcases inv_reachable hcap n s hr hp with ht | hps | ⟨x, hx, hxa⟩
  · exact ⟨.wake c, _, _, by dsimp only [step]; rw [hc, ht]; rfl, nofun⟩
  · exact ⟨.signal, _, _, by dsimp only [step]; rw [if_pos hps], nofun⟩
  · obtain ⟨i, hi⟩ := index_of_mem _ x hx
    obtain rfl | rfl := aboutToGet_iff.mp hxa
    · exact ⟨.get i, _, _, by dsimp only [step]; rw [hi, List.isEmpty_eq_false_iff.mpr hp]; rfl, nofun⟩
    · exact ⟨.finalGet i, _, _, by dsimp only [step]; rw [hi], nofun⟩

/-- a poll never answers empty while packets are queued -/
theorem poll_answer_takes_all (cap : Nat) (s : St) (l : Lbl) (s' : St) (es : List Ev) (c : Nat) (ps : List Nat)
    (hs : step cap s l = some (s', es)) (he : Ev.returned c ps ∈ es) : ps = s.packets ∧ s'.packets = [] :=
  returned_takes_all hs he

/-- D14, the original `pollQueue` (unbuffered `ready`): consumer checks (empty) · producer adds ·
    consumer waits — the packet is queued, the consumer is parked, nothing will wake it -/
theorem Legacy.pollqueue_lost_wakeup :
    ∃ s, (Legacy.sys 0 1).Reachable s ∧ Stuck s :=
  ⟨{ packets := [7], token := false, pendingSignals := 0, consumers := [.parked] },
    ⟨[.start 0, .get 0, .add [7], .enter 0], [], by decide⟩,
    List.cons_ne_nil _ _, rfl, rfl, ⟨.parked, List.mem_singleton_self _, .inl rfl⟩,
    fun _ hc => List.mem_singleton.mp hc ▸ rfl⟩

/-- … and its timeout path answered empty with the packet still queued -/
theorem Legacy.timeout_answers_empty_while_queued :
    (Legacy.sys 0 1).run (Legacy.sys 0 1).init [.start 0, .get 0, .add [7], .enter 0, .timeout 0] =
      some ({ packets := [7], token := false, pendingSignals := 0, consumers := [.done []] }, [.returned 0 []]) := by
  decide

/-- the drain hand-shake between `closePacketQueue` and the sender is a rendezvous (unbuffered channel): `waitForDrain`
    returns only when the sender has really taken what was queued. With a buffered `drain` a stale token from earlier traffic
    lets `close` discard packets the transport could still take (read from the source) -/
theorem drain_is_rendezvous : Gen.chanPacketQueueDrain = 0 := by decide

/-- both Engine.IO sockets hand packets to the transport while holding transportMu's read lock, so the swap of an upgrade
    (write lock, which also carries the old transport's queue over) cannot fall between choosing the transport and enqueueing:
    otherwise a packet lands in the discarded transport's queue, which nothing ever drains (read from the source) -/
theorem send_chooses_and_enqueues_under_lock : Gen.eioSendUnderTransportLock = true := by decide

/-! non-vacuity: a reachable state of the repaired queue in which the race happened and the token saves it -/
example : (sys 1 1).run (sys 1 1).init [.start 0, .get 0, .add [7], .enter 0, .wake 0, .get 0] =
    some ({ packets := [], token := false, pendingSignals := 0, consumers := [.done [7]] }, [.returned 0 [7]]) := by decide

end SioVerif.C19
