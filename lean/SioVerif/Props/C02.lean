import SioVerif.Gen.Consts
import SioVerif.Lemmas.SioCodec
import SioVerif.Model.Gate
import SioVerif.Step
/-
  C02 — Per-emitter order is preserved and binary frames are never interleaved.

  The send path: every emit hands *all* frames of its packet (header + attachments) to one
  `packetQueue.add`, which appends them inside one critical section; one sender goroutine takes
  everything queued (`get`) and hands it to the Engine.IO socket in that order.
  * "the frames that make up one binary packet always travel contiguously" and "events that one
     goroutine emits one after another are delivered in that order, whatever other goroutines emit"
        → `wire_is_blocks` (for every interleaving of adds by any number of goroutines with gets: what
          went out followed by what is queued is the concatenation of whole blocks in the order of
          the add steps), `blocks_contiguous`, `per_emitter_order`
  * receiving side: frames of whole blocks, fed to the decoder in order, finish one packet per block
        → `blocks_reassemble` (with C09's `frames_reassemble`)
  * order "(b) at handler entry in the receiving application" does NOT hold: both sides dispatch every
    decoded packet on its own goroutine (recorded finding D23; the harness reports it when observed)
-/
namespace SioVerif.C02

/-- a block: emitter, per-emitter sequence number, and its frames -/
structure Block where
  emitter : Nat
  seq : Nat
  frames : List Nat
deriving Repr, DecidableEq

structure QSt where
  queued : List Nat := []     -- packetQueue.packets
  sent : List Nat := []       -- handed to the Engine.IO socket so far, in order
  added : List Block := []    -- history: blocks in the order of their add steps
deriving Repr, DecidableEq

inductive QOp where
  | add (b : Block)
  | get
deriving Repr, DecidableEq

def qstep (s : QSt) : QOp → QSt
  | .add b => { s with queued := s.queued ++ b.frames, added := s.added ++ [b] }
  | .get => { s with sent := s.sent ++ s.queued, queued := [] }

def qrun (s : QSt) (ops : List QOp) : QSt := ops.foldl qstep s

/-- in every reachable state the wire followed by the queue is the concatenation of whole blocks, in
    the order in which the adds happened -/
theorem wire_is_blocks (ops : List QOp) : ∀ s : QSt, s.sent ++ s.queued = (s.added.map (·.frames)).flatten →
    (qrun s ops).sent ++ (qrun s ops).queued = ((qrun s ops).added.map (·.frames)).flatten := by
  refine foldl_inv qstep (fun s => s.sent ++ s.queued = (s.added.map (·.frames)).flatten) ?_ ops
  intro s op h
  cases op with
  | add b => simp [qstep, ← List.append_assoc, h]
  | get => simpa [qstep] using h

/-- hence every block occupies a contiguous segment of the stream -/
theorem blocks_contiguous (ops : List QOp) (pre post : List Block) (b : Block)
    (h : (qrun {} ops).added = pre ++ b :: post) :
    (qrun {} ops).sent ++ (qrun {} ops).queued =
      (pre.map (·.frames)).flatten ++ b.frames ++ (post.map (·.frames)).flatten := by
  rw [wire_is_blocks ops {} rfl, h]
  simp

def pick (e : Nat) : QOp → Option Block
  | .add b => if b.emitter == e then some b else none
  | .get => none

/-- the adds of one goroutine happen in its program order, and the stream keeps the add order: the
    blocks of one emitter appear on the wire in the order it emitted them -/
theorem per_emitter_order (ops : List QOp) (e : Nat) :
    ((qrun {} ops).added.filter (·.emitter == e)) = ops.filterMap (pick e) := by
  refine (foldl_hist qstep (fun s => s.added.filter (·.emitter == e)) (pick e) ?_ ops {}).trans (List.nil_append _)
  intro s op
  cases op with
  | add b => cases hb : b.emitter == e <;> simp [qstep, pick, hb]
  | get => simp [qstep, pick]

/-- receiving side: a block whose header announces `k` attachments, followed by exactly `k` further
    frames, finishes exactly one packet at its last frame and leaves the decoder idle for the next -/
theorem blocks_reassemble (J : Sio.Oracle) (maxAtt : Nat) (r : Sio.Pending) (atts : List Bytes)
    (hr : 0 < r.remaining) (hl : (atts.length : Int) = r.remaining) :
    Sio.addMany J maxAtt (some r) atts = none :=
  Sio.pending_finishes J maxAtt atts r hr hl

/-! ### the stream checker run on the observed wire

  Frames of the rig's workload carry (emitter, sequence number, index within the block, block size).
  `checkStream` is the reference decoder of the correspondence check: it accepts a frame stream iff
  it is a concatenation of whole canonical blocks in which every emitter's sequence numbers count up
  from the expected value. `checkStream_blocks` proves that it accepts every stream the model can
  put on the wire, so a rejection of the observed wire is a disagreement with the model. -/

structure Fr where
  e : Nat
  s : Nat
  i : Nat
  t : Nat
deriving Repr, DecidableEq

/-- the frames of the block (e, s) with k attachments: indices 0..k, size k+1 -/
def canon (e s k : Nat) : List Fr := (List.range (k + 1)).map fun i => ⟨e, s, i, k + 1⟩

abbrev Next := List (Nat × Nat)

def Next.get (n : Next) (e : Nat) : Nat := ((n.find? (·.1 == e)).map (·.2)).getD 0
def Next.set (n : Next) (e v : Nat) : Next := (e, v) :: n

def checkStream : Nat → Next → List Fr → Bool
  | _, _, [] => true
  | 0, _, _ :: _ => false
  | fuel + 1, n, f :: rest =>
    f.i == 0 && f.t ≥ 1 && f.s == n.get f.e &&
    rest.take (f.t - 1) == (canon f.e f.s (f.t - 1)).tail &&
    checkStream fuel (n.set f.e (f.s + 1)) (rest.drop (f.t - 1))

/-- blocks (emitter, seq, attachments) in which each emitter counts up from what `n` expects -/
def Ordered : Next → List (Nat × Nat × Nat) → Prop
  | _, [] => True
  | n, (e, s, _) :: bs => s = n.get e ∧ Ordered (n.set e (s + 1)) bs

theorem canon_ne (e s k : Nat) : canon e s k = ⟨e, s, 0, k + 1⟩ :: (canon e s k).tail := by
  simp [canon, List.range_succ_eq_map]

theorem canon_tail_length (e s k : Nat) : (canon e s k).tail.length = k := by
  simp [canon]

theorem checkStream_blocks (bs : List (Nat × Nat × Nat)) : ∀ (n : Next) (fuel : Nat),
    Ordered n bs → bs.length ≤ fuel →
    checkStream fuel n (bs.flatMap fun b => canon b.1 b.2.1 b.2.2) = true := by
  induction bs with
  | nil => intro n fuel _ _; cases fuel <;> rfl
  | cons b bs ih =>
    intro n fuel ho hf
    obtain ⟨e, s, k⟩ := b
    obtain ⟨hs, ho'⟩ := ho
    cases fuel with
    | zero => simp at hf
    | succ fuel =>
      subst hs
      have hl := canon_tail_length e (n.get e) k
      rw [List.flatMap_cons, canon_ne]
      simp [checkStream, List.take_left' hl, List.drop_left' hl, ih _ fuel ho' (Nat.le_of_succ_le_succ hf)]

/-- what the model puts on the wire passes the checker: the add history of canonical blocks, ordered
    per emitter, flattened -/
theorem wire_checks (ops : List QOp) (bs : List (Nat × Nat × Nat))
    (hadd : (qrun {} ops).added.map (·.frames) = bs.map fun b => (canon b.1 b.2.1 b.2.2).map fun f => f.e * 1000000 + f.s * 100 + f.i)
    (ho : Ordered [] bs) :
    (qrun {} ops).sent ++ (qrun {} ops).queued = (bs.flatMap fun b => canon b.1 b.2.1 b.2.2).map (fun f => f.e * 1000000 + f.s * 100 + f.i) ∧
    checkStream bs.length [] (bs.flatMap fun b => canon b.1 b.2.1 b.2.2) = true := by
  refine ⟨?_, checkStream_blocks bs [] bs.length ho (Nat.le_refl _)⟩
  rw [wire_is_blocks ops {} rfl, hadd]
  simp only [List.flatMap, List.map_flatten, List.map_map]
  rfl

example : checkStream 9 [] (canon 1 0 2 ++ canon 2 0 0 ++ canon 1 1 1) = true := by decide
example : checkStream 9 [] ([⟨1, 0, 0, 3⟩, ⟨1, 0, 1, 3⟩, ⟨2, 0, 0, 1⟩, ⟨1, 0, 2, 3⟩]) = false := by decide
example : checkStream 9 [] (canon 1 1 0 ++ canon 1 0 0) = false := by decide

/-! ### the client socket's send gate (emits while the socket connects) -/

open SioVerif.Gate in
/-- with the atomic gate: in every reachable state, what was handed on followed by what waits is
    exactly what was emitted, in emission order — nothing stranded elsewhere, nothing overtaken -/
theorem gate_keeps_order (ops : List Gate.Op) : ∀ s : Gate.St, s.pending = [] → s.out ++ s.buf = s.hist →
    (Gate.run true s ops).out ++ (Gate.run true s ops).buf = (Gate.run true s ops).hist ∧ (Gate.run true s ops).pending = [] := by
  intro s hp h
  refine foldl_inv (step true) (fun s => s.out ++ s.buf = s.hist ∧ s.pending = []) ?_ ops s ⟨h, hp⟩
  rintro s op ⟨h, hp⟩
  cases op with
  | emit p =>
    simp only [step, Bool.not_true, Bool.false_eq_true, ↓reduceIte]
    by_cases hc : (s.connected && s.buf.isEmpty) = true
    · -- connected and nothing waits: straight out
      have hb : s.buf = [] := List.isEmpty_iff.mp (Bool.and_eq_true_iff.mp hc).2
      rw [if_pos hc]
      exact ⟨by simp only [← h, hb, List.append_nil], hp⟩
    · rw [if_neg hc]
      exact ⟨by simp only [← List.append_assoc, h], hp⟩
  | decide g p => exact ⟨h, hp⟩   -- a no-op of the atomic gate
  | act g =>
    -- nothing is ever pending, so there is nothing to act upon
    have : step true s (.act g) = s := by simp only [step, hp, List.find?_nil]
    rw [this]
    exact ⟨h, hp⟩
  | setConnected => exact ⟨h, hp⟩
  | flush =>
    simp only [step]
    cases s.connected
    · exact ⟨h, hp⟩
    · exact ⟨(List.append_nil _).trans h, hp⟩
  | disconnect => exact ⟨h, hp⟩

open SioVerif.Gate in
/-- once connected and flushed nothing waits: everything emitted so far has been handed on, in order -/
theorem gate_flushed (ops : List Gate.Op) :
    (Gate.run true {} (ops ++ [.setConnected, .flush])).out = (Gate.run true {} (ops ++ [.setConnected, .flush])).hist := by
  have h := (gate_keeps_order (ops ++ [.setConnected, .flush]) {} rfl rfl).1
  have hb : (Gate.run true {} (ops ++ [.setConnected, .flush])).buf = [] := by
    rw [Gate.run, List.foldl_append]
    rfl
  rwa [hb, List.append_nil] at h

/-- the gate of the source is the atomic one (read from client_socket.go by the translator) -/
theorem gate_is_atomic : Gen.sioClientGateAtomic = true := by decide

/-- and the flush of the offline buffer hands the backlog on before sendBufferMu is released (the model's `flush` is one step):
    released earlier, an emit of the goroutine that filled the backlog finds the socket connected and the buffer empty and
    overtakes the whole backlog -/
theorem flush_is_atomic : Gen.sioClientFlushUnderLock = true := by decide

/-- why it matters: with the state read first and acted upon later (the code before finding D37) a
    packet overtakes the buffered one, and another is stranded in the buffer of a connected socket -/
theorem split_gate_reorders :
    (Gate.run false {} [.decide 1 10, .act 1, .setConnected, .decide 1 11, .act 1, .flush]).out = [11, 10] := by decide
theorem split_gate_strands :
    let s := Gate.run false {} [.decide 1 10, .setConnected, .flush, .act 1]
    s.connected = true ∧ s.out = [] ∧ s.buf = [10] := by decide

/-- every sender hands all frames of a packet to the queue in one call, and the queue appends them in
    one critical section (the atomicity `qstep`'s `add` assumes; read from the source) -/
theorem add_is_one_step : Gen.sioSendPathSingleAdd = true := by decide

/-- the send queue's signal channel is buffered (no frame waits for unrelated traffic, C19) -/
theorem send_queue_capacity : Gen.chanPacketQueueReady = 1 := by decide

/-! non-vacuity: two emitters, one binary packet each, interleaved adds and gets -/
example : (qrun {} [.add ⟨1, 1, [10, 11]⟩, .get, .add ⟨2, 1, [20, 21, 22]⟩, .add ⟨1, 2, [12]⟩, .get]).sent = [10, 11, 20, 21, 22, 12] := by decide

end SioVerif.C02
