import SioVerif.Gen.Consts
import SioVerif.Lemmas.EioServer
import SioVerif.Lemmas.Basic
import SioVerif.Step
/-
  C17 — Invalid Engine.IO requests get the protocol's error and create no session.

  * "unsupported protocol version, unknown transport, wrong method, unknown or closed session id is
     answered with the protocol's error code and neither creates nor alters a session"
        → `invalid_request_rejected`, `validation_order`, `error_table_is_protocol`
  * "every accepted handshake yields a session id unique among live sessions"
        → `live_sids_nodup` (from `store.set`'s check, for every history), `sid_distinct_in_window`
  * "once the server is closed it admits no new session and all existing ones are closed"
        → `closed_admits_none` (handshakes racing Close, every interleaving)
-/
namespace SioVerif.C17
open SioVerif SioVerif.EioSrv

abbrev pv : Nat := Gen.eioProtocolVersion

/-- the table in the source is the protocol's: key = code, codes 0..5 with the documented messages -/
theorem error_table_is_protocol :
    Gen.eioServerErrors =
      [(0, 0, "Transport unknown"), (1, 1, "Session ID unknown"), (2, 2, "Bad handshake method"),
       (3, 3, "Bad request"), (4, 4, "Forbidden"), (5, 5, "Unsupported protocol version")] := by decide

theorem protocol_version_is_4 : pv = 4 := by decide

/-- the source re-checks the closed flag after `store.set` (so `closed_admits_none` is about the code as it is) -/
theorem recheck_in_source : Gen.eioNewSocketRechecksClosed = true := by decide

/-- and `Server.Close` sets the flag before it takes the snapshot of the sessions it closes: the model's `close` label
    (flag, then sweep) is the order of the source; with the sweep first, a handshake served during the sweep passes both
    checks and is never closed -/
theorem close_sets_flag_first : Gen.eioCloseSetsFlagFirst = true := by decide

/-- every request in one of the invalid classes is answered 400 with a protocol error code and has
    no effect (no session created, none touched); a closed server answers 503 -/
theorem invalid_request_rejected (closed : Bool) (r : Req) (h : r.invalid pv = true) :
    (serve pv closed r).2 = .none ∧
    ((serve pv closed r).1.status = 503 ∨ (serve pv closed r).1.status = 403 ∨
     ((serve pv closed r).1.status = 400 ∧ (serve pv closed r).1.code.isSome)) := by
  rcases serve_invalid pv closed r h with e | e | ⟨c, e⟩ <;> simp [e, err]

/-- which error wins when several apply: version before session id before method before transport -/
theorem validation_order (r : Req) (hp : r.proto3 = false) :
    (r.eio ≠ .num pv → (serve pv false r).1.code = some cUnsupportedVersion) ∧
    (r.eio = .num pv → r.sid = .unknown → (serve pv false r).1.code = some cUnknownSid) ∧
    (r.eio = .num pv → r.sid = .absent → r.method ≠ .get → (serve pv false r).1.code = some cBadHandshakeMethod) ∧
    (r.eio = .num pv → r.sid = .absent → r.method = .get → r.authOk = true →
      r.transport ≠ .polling → r.transport ≠ .websocket → (serve pv false r).1.code = some cUnknownTransport) := by
  refine ⟨?_, ?_, ?_, ?_⟩
  · intro h; simp [serve, hp, h, err]
  · intro h1 h2; simp [serve, hp, h1, h2, err]
  · intro h1 h2 h3; simp [serve, hp, h1, h2, h3, err]
  · intro h1 h2 h3 h4 h5 h6
    cases ht : r.transport <;> simp_all [serve, err]

/-- a valid handshake creates exactly one session on the requested transport -/
theorem valid_handshake_admitted (r : Req) (hp : r.proto3 = false) (he : r.eio = .num pv) (hs : r.sid = .absent)
    (hm : r.method = .get) (ha : r.authOk = true) (ht : r.transport = .polling) :
    serve pv false r = (⟨200, none⟩, .newSession .polling) := by
  simp [serve, hp, he, hs, hm, ha, ht]

/-! ### unique session ids and admission racing Close -/

def srv (recheck : Bool) : Sys SrvSt SrvLbl Unit :=
  { init := {}, step := fun s l => (srvStep recheck s l).map (fun s' => (s', [])) }

theorem nodup_append_new (l : List Nat) (x : Nat) (h : l.Nodup) (hx : l.contains x = false) : (l ++ [x]).Nodup := by
  exact nodup_snoc h fun hm => by simp [hm] at hx

/-- the store never holds two live sessions with one id, whatever the handshakes and closures -/
theorem live_sids_nodup (recheck : Bool) : ∀ s, (srv recheck).Reachable s → s.live.Nodup := by
  refine Sys.inv_of_step (srv recheck) (fun s => s.live.Nodup) List.nodup_nil fun s l s' es hi hs => ?_
  obtain ⟨s1, h, e⟩ := Option.map_eq_some_iff.mp hs
  cases e
  -- `live` changes at `store` (a fresh id), at a failed re-check (one id removed) and at `closeAll` (emptied)
  cases l with dsimp only [srvStep] at h
  | begin _ | closeFlag => cases h; exact hi
  | check i =>
    split at h <;> cases h
    exact hi
  | store i =>
    split at h
    · split at h <;> cases h
      · exact hi
      · rename_i hc
        exact nodup_append_new _ _ hi (by simpa using hc)
    · cases h
  | recheck i =>
    split at h
    · split at h <;> cases h
      · exact hi.sublist List.filter_sublist
      · exact hi
    · cases h
  | closeAll =>
    split at h <;> cases h
    exact List.nodup_nil

/-- invariant behind `closed_admits_none`: once Close has taken its snapshot, the flag is set and a session is live
    only if its handshake still has the re-check ahead of it -/
def ClosedInv (s : SrvSt) : Prop :=
  s.snapshotTaken = true → s.closed = true ∧ ∀ sid ∈ s.live, (sid, HPc.stored) ∈ s.hs

theorem setPc_mem_other (hs : List (Nat × HPc)) (i : Nat) (pc : HPc) (x : Nat × HPc) (hx : x ∈ hs)
    (hne : hs[i]? ≠ some x) : x ∈ setPc hs i pc := by
  unfold setPc
  split
  · exact mem_set_of_ne _ hx hne
  · exact hx

/-- after `Close` has returned and the handshakes in flight have finished, no session is live:
    with the re-check, in every reachable state in which the snapshot was taken and no handshake is
    between `store.set` and its re-check, the store is empty -/
theorem closed_admits_none : ∀ s, (srv true).Reachable s → s.snapshotTaken = true →
    (∀ h ∈ s.hs, h.2 ≠ HPc.stored) → s.live = [] := by
  intro s hr hsnap hnone
  have hinv : ClosedInv s := by
    refine Sys.inv_of_step (srv true) ClosedInv (fun h => nomatch h) (fun s l s' es hi hs => ?_) s hr
    obtain ⟨s1, h, e⟩ := Option.map_eq_some_iff.mp hs
    cases e
    -- a handshake that moves is not a `stored` one, except at the re-check, and a failed re-check removes its id from `live`
    cases l with dsimp only [srvStep] at h
    | begin sid =>
      cases h
      exact fun hsn => ⟨(hi hsn).1, fun sid hl => List.mem_append_left _ ((hi hsn).2 sid hl)⟩
    | check i =>
      split at h <;> cases h
      rename_i hget
      exact fun hsn => ⟨(hi hsn).1, fun sid hl => setPc_mem_other _ _ _ _ ((hi hsn).2 sid hl) (by simp [hget])⟩
    | store i =>
      split at h
      · rename_i sid0 hget
        split at h <;> cases h
        · exact fun hsn => ⟨(hi hsn).1, fun sid hl => setPc_mem_other _ _ _ _ ((hi hsn).2 sid hl) (by simp [hget])⟩
        · refine fun hsn => ⟨(hi hsn).1, fun sid hl => ?_⟩
          rcases List.mem_append.mp hl with hl | hl
          · exact setPc_mem_other _ _ _ _ ((hi hsn).2 sid hl) (by simp [hget])
          · cases List.mem_singleton.mp hl
            simp only [setPc, hget]
            exact mem_set_of_getElem? hget _
      · cases h
    | recheck i =>
      split at h
      · rename_i sid0 hget
        split at h <;> cases h
        · refine fun hsn => ⟨(hi hsn).1, fun sid hl => ?_⟩
          obtain ⟨hl, hne⟩ := List.mem_filter.mp hl
          exact setPc_mem_other _ _ _ _ ((hi hsn).2 sid hl) (by simpa [hget] using fun e => by simp [e] at hne)
        · rename_i hnc
          exact fun hsn => absurd (hi hsn).1 hnc
      · cases h
    | closeFlag => cases h; exact fun hsn => ⟨rfl, (hi hsn).2⟩
    | closeAll =>
      split at h <;> cases h
      rename_i hc
      exact fun _ => ⟨hc, fun _ hl => nomatch hl⟩
  cases hl : s.live with
  | nil => rfl
  | cons sid rest => exact absurd rfl (hnone _ ((hinv hsnap).2 sid (by simp [hl])))

/-- D22, the original admission (no re-check): check · closeFlag · closeAll · store leaves a live
    session on a closed server -/
theorem Legacy.close_race_admits :
    (srv false).run (srv false).init [.begin 7, .check 0, .closeFlag, .closeAll, .store 0] =
      some ({ closed := true, snapshotTaken := true, live := [7], hs := [(7, .admitted)] }, []) := by decide

/-- ids generated with sequence numbers that differ modulo 2^24 are distinct for every choice of
    random bytes -/
theorem sid_distinct_in_window (r1 r2 : Nat → UInt8) (s1 s2 : Nat) (h : s1 % 16777216 ≠ s2 % 16777216) :
    sidBytes r1 s1 ≠ sidBytes r2 s2 := by
  intro e
  have e2 := (List.append_inj e (by simp)).2
  simp only [List.cons.injEq, and_true] at e2
  have ha := congrArg UInt8.toNat e2.1
  have hb := congrArg UInt8.toNat e2.2.1
  have hc := congrArg UInt8.toNat e2.2.2
  simp only [UInt8.toNat_ofNat', Nat.mod_mod] at ha hb hc
  rw [seq_mod_eq_bytes s1, seq_mod_eq_bytes s2, ha, hb, hc] at h
  exact h rfl

/-! non-vacuity -/
example : (⟨false, .post, .num 4, .polling, .absent, true⟩ : Req).invalid pv = true := by decide
example : serve pv false ⟨false, .get, .num 3, .junk, .unknown, true⟩ = (⟨400, some 5⟩, .none) := by decide

end SioVerif.C17
