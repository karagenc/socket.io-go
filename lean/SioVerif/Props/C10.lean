import SioVerif.Lemmas.SioCodec
/-
  C10 — No input from a peer can crash or wedge the Socket.IO decoder or the process.

  * "decoding either yields a packet or fails with an error: it never panics"
      → `parse_total`, `add_total`, `reconstruct_total` (the model of the repaired code has an explicit
        panic outcome; these theorems say it is never produced — the panics of the original code,
        D1/D3, are kept as `Legacy` witnesses and the exhaustive correspondence runs the real decoder
        under `recover`)
  * "… or hangs" (wedges)  → `never_wedges`, `pending_always_completes`
  * "out-of-range placeholder numbers" → `placeholder_out_of_range_is_error`
  * "the error is reported … the process, its other connections keep working" is decided by the
    dispatch correspondence of the harness (component `siodispatch`).
-/
namespace SioVerif.C10
open SioVerif.Sio

theorem finishParse_total (J : Oracle) (h : Header) (d : Bytes) : (finishParse J h d).isPanic = false := by
  unfold finishParse
  refine ite_ind (Outcome.isPanic · = false) ?_ rfl
  split
  · rfl
  · split <;> rfl

/-- header parsing never panics, whatever bytes arrive and whatever JSON answers -/
theorem parse_total (J : Oracle) (data : Bytes) : (parseHeader J data).isPanic = false := by
  unfold parseHeader
  split
  · rfl
  · exact ite_ind (Outcome.isPanic · = false) rfl <|
      Outcome.isPanic_bind _ _ (parseAttachments_no_panic _ _) fun _ =>
        Outcome.isPanic_bind _ _ (parseId_no_panic _) fun _ => finishParse_total J _ _

/-- in every reachable decoder state a pending packet waits for a positive number of frames … -/
theorem never_wedges (J : Oracle) (maxAtt : Nat) (frames : List Bytes) :
    PendingOk (addMany J maxAtt none frames) :=
  addMany_preserves J maxAtt frames none pendingOk_none

/-- … and exactly that many further frames (whatever they contain) complete it -/
theorem pending_always_completes (J : Oracle) (maxAtt : Nat) (frames : List Bytes) (r : Pending)
    (h : addMany J maxAtt none frames = some r) (more : List Bytes) (hl : (more.length : Int) = r.remaining) :
    addMany J maxAtt (some r) more = none :=
  pending_finishes J maxAtt more r (never_wedges J maxAtt frames r h) hl

/-- substitution of placeholders never panics, whatever numbers the peer wrote -/
theorem reconstruct_total (t : Tree) (bufs : List Bytes) : (reconstruct t bufs).isPanic = false := by
  induction t with
  | ph n =>
    unfold reconstruct
    refine ite_ind (Outcome.isPanic · = false) rfl ?_
    split <;> rfl
  | cons hd tl ih1 ih2 => exact Outcome.isPanic_bind _ _ ih1 fun _ => Outcome.isPanic_bind _ _ ih2 fun _ => rfl
  | _ => rfl

theorem placeholder_out_of_range_is_error (n : Int) (bufs : List Bytes) (h : n < 0 ∨ (bufs.length : Int) ≤ n) :
    reconstruct (.ph n) bufs = .error .invalidPlaceholder := by
  unfold reconstruct
  by_cases hn : n < 0
  · rw [if_pos hn]
  · rw [if_neg hn, List.getElem?_eq_none ((Int.le_toNat (Int.not_lt.mp hn)).mpr (h.resolve_left hn))]

/-! witnesses of the original defects (D2): the attachment count 2^64-1 became -1 and the counter
    never returned to 0 -/
theorem Legacy.negative_remaining_never_zero (k : Nat) : ((-1 : Int) - (k + 1 : Nat)) ≠ 0 := by omega

/-! non-vacuity -/
example : addMany (fun _ => none) 0 none [[54, 50, 45, 91, 93]] = some ⟨⟨6, [47], none, 2⟩, 2, 1⟩ := by decide

end SioVerif.C10
