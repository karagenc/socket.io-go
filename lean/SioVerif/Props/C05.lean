import SioVerif.Lemmas.Dispatch
/-
  C05 — Namespaces multiplexed on one connection are isolated from each other.

  * "an event, acknowledgement … in one namespace is never delivered to a socket or handler of
     another namespace, even when both share one connection"  → `routed_only_to_own_namespace`
  * "disconnecting one namespace leaves the others connected"  → `disconnect_local`
  * "a client is attached to a namespace only once the server has accepted its CONNECT for it"
                                                               → `attached_only_after_accept`
  * "packets addressed to a namespace it has not joined close the connection instead of being
     dispatched"                                               → `unjoined_namespace_closes`
  That the namespace on the wire is the sender's, and that names that are prefixes of one another or
  differ by ''/'/' are told apart / identified, is the header theorem of C09 (`header_roundtrip`,
  `Header.norm`). Broadcast isolation is C04's `broadcast_exact` (one adapter per namespace).
-/
namespace SioVerif.C05
open SioVerif.Dispatch

/-- whatever a packet for namespace n causes concerns namespace n only — or closes the connection -/
theorem routed_only_to_own_namespace (served accepts : Nat → Bool) (c : Conn) (p : Pkt) :
    ∀ e ∈ (onPacket served accepts c p).2, e.nsp = some p.nsp ∨ e = .closeAll := by
  have h := onPacket_answer served accepts c p
  generalize onPacket served accepts c p = r at h
  -- every answer holds at most one effect: `closeAll`, or one that carries the packet's namespace
  cases h with
  | ignored => nofun
  | closes => exact List.forall_mem_singleton.mpr (.inr rfl)
  | _ => exact List.forall_mem_singleton.mpr (.inl rfl)

/-- an event or ack is dispatched only to a namespace that is attached -/
theorem dispatched_only_if_attached (served accepts : Nat → Bool) (c : Conn) (p : Pkt) (n x : Nat)
    (h : Eff.deliver n x ∈ (onPacket served accepts c p).2 ∨ Eff.ackTo n x ∈ (onPacket served accepts c p).2) :
    n ∈ c.attached := by
  have ho := onPacket_answer served accepts c p
  generalize onPacket served accepts c p = r at ho h
  cases ho with
  | delivers _ hn | acks _ hn =>
    simp at h
    exact h.1 ▸ hn
  | _ => simp at h

theorem onPacket_attached (served accepts : Nat → Bool) (c : Conn) (p : Pkt)
    (h : ∀ n ∈ c.attached, served n = true ∧ accepts n = true) :
    ∀ n ∈ (onPacket served accepts c p).1.attached, served n = true ∧ accepts n = true := by
  have ho := onPacket_answer served accepts c p
  generalize onPacket served accepts c p = r at ho
  cases ho with
  | closes => nofun
  | attaches hs ha =>
    intro n hn
    rcases List.mem_append.mp hn with hn | hn
    · exact h n hn
    · exact List.mem_singleton.mp hn ▸ ⟨hs, ha⟩
  | detaches => exact fun n hn => h n (List.mem_filter.mp hn).1
  | _ => exact h

/-- invariant over every packet sequence: a namespace is attached only if a CONNECT for it was
    accepted (it is served and its middleware chain accepts) -/
theorem attached_only_after_accept (served accepts : Nat → Bool) (ps : List Pkt) : ∀ c : Conn,
    (∀ n ∈ c.attached, served n = true ∧ accepts n = true) →
    ∀ n ∈ (run served accepts c ps).1.attached, served n = true ∧ accepts n = true := by
  induction ps with
  | nil => exact fun _ h => h
  | cons p ps ih => exact fun c h => ih _ (onPacket_attached served accepts c p h)

/-- DISCONNECT for an attached namespace detaches only that one; the connection and every other
    namespace stay -/
theorem disconnect_local (served accepts : Nat → Bool) (c : Conn) (n : Nat) (ho : c.isOpen = true) (hn : n ∈ c.attached) :
    (onPacket served accepts c (.disconnect n)).1.isOpen = true ∧
    ∀ m, m ≠ n → (m ∈ (onPacket served accepts c (.disconnect n)).1.attached ↔ m ∈ c.attached) := by
  have hc : c.attached.contains n = true := List.contains_iff_mem.mpr hn
  simp only [onPacket, ho, Bool.not_true, Bool.false_eq_true, ↓reduceIte, Pkt.nsp, hc]
  refine ⟨trivial, fun m hm => ?_⟩
  simp [List.mem_filter, hm]

/-- EVENT / ACK / DISCONNECT for a namespace that is not attached, a second CONNECT for an attached
    one, or a CONNECT_ERROR from the client: nothing is dispatched, the connection is closed -/
theorem unjoined_namespace_closes (served accepts : Nat → Bool) (c : Conn) (p : Pkt) (ho : c.isOpen = true)
    (h : (p.nsp ∉ c.attached ∧ ∀ n, p ≠ .connect n) ∨ (p.nsp ∈ c.attached ∧ p = .connect p.nsp) ∨ p = .connectError p.nsp) :
    onPacket served accepts c p = ({ isOpen := false, attached := [] }, [.closeAll]) := by
  cases p <;> simp_all [onPacket, Pkt.nsp]

/-! non-vacuity -/
example : (run (fun _ => true) (fun _ => true) {} [.connect 1, .connect 2, .event 1 7, .disconnect 1, .event 2 8, .event 1 9]).2 =
    [.attach 1, .attach 2, .deliver 1 7, .detach 1, .deliver 2 8, .closeAll] := by decide

end SioVerif.C05
