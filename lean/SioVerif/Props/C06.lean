import SioVerif.Gen.Consts
import SioVerif.Model.Lifecycle
/-
  C06 — Every connection end is reported exactly once and leaves nothing on the server.

  * "the disconnect handlers of each socket that had connected run exactly once"
        → `at_most_once` (every reachable state, every interleaving of admission, connection end and
          namespace-level closes), `exactly_once_after_end`
  * "afterwards the server keeps no trace of the session: not in the namespace's socket list, not in
     any room …"                                         → `no_trace_after_end`
  * "… while a namespace middleware runs" (the connection ends between CONNECT and admission)
        → the quantification includes every placement of `flag` / `sweep` before, between and after
          `doConnect`, `store`, `check`; without the re-check the socket survives its connection:
          `Legacy.zombie_after_close_during_middleware` (D20)
  The reason reported and the Engine.IO session id becoming unknown are decided by the system rig.
-/
namespace SioVerif.C06
open SioVerif SioVerif.Life

/-- the end of a transport is processed on a goroutine of its own on both Engine.IO sockets: the close callback can be entered by a
    goroutine that holds transportMu (a write failing inside the upgrade's hand-over), and deciding whether the closed transport is the
    current one takes that lock - done on the caller it would never return and the session would stay for ever (read from the source) -/
theorem transport_close_off_the_caller : Gen.eioTransportCloseAsync = true := by decide

/-- the source re-checks the connection's closed flag after storing the socket (so the theorems below are about the code as it is) -/
theorem recheck_in_source : Gen.sioConnectRechecksClosed = true := by decide

/-- the inductive invariant -/
structure LInv (s : St) : Prop where
  swept_flag : s.swept = true → s.connFlag = true
  live : s.sockOnce = false → s.count = 0 ∧ (s.pc ≠ .notStarted → s.isConnected = true ∧ s.listed = true ∧ s.inRoom = true)
  dead : s.sockOnce = true → s.count = 1 ∧ s.isConnected = false ∧ s.listed = false ∧ s.inRoom = false ∧ s.pc ≠ .notStarted
  early : (s.pc = .notStarted ∨ s.pc = .connected) → s.inConnStore = false
  before : s.pc = .notStarted → s.isConnected = false ∧ s.listed = false ∧ s.inRoom = false ∧ s.sockOnce = false
  kept : (s.pc = .stored ∨ s.pc = .checked) → s.sockOnce = false → s.inConnStore = true
  after_check : s.pc = .checked → s.connFlag = true → s.swept = false → s.sockOnce = false → s.inConnStore = true
  done_ : s.pc = .checked → s.swept = true → s.sockOnce = true ∧ s.inConnStore = false

theorem sockClose_dead (s : St) (h : s.isConnected = true) (h1 : s.sockOnce = false) :
    sockClose s = { s with sockOnce := true, isConnected := false, listed := false, inRoom := false, inConnStore := false, count := s.count + 1 } := by
  simp [sockClose, h, h1]

/-- a socket that was closed after it had started and is in no store satisfies the invariant, whatever the admission's progress -/
theorem LInv.of_closed (pc : Pc) (cf sw : Bool) (h1 : sw = true → cf = true) (hpc : pc ≠ .notStarted) :
    LInv { pc := pc, connFlag := cf, swept := sw, inConnStore := false, sockOnce := true, count := 1,
           isConnected := false, listed := false, inRoom := false } :=
  ⟨h1, nofun, fun _ => ⟨rfl, rfl, rfl, rfl, hpc⟩, fun _ => rfl, fun h => absurd h hpc, fun _ => nofun, fun _ _ _ => nofun,
    fun _ _ => ⟨rfl, rfl⟩⟩

/-- closing a socket that is in no store and is either connected and not yet closed, or closed already, gives one fixed state -/
theorem sockClose_eq {s : St} (hl : s.sockOnce = false → s.count = 0 ∧ s.isConnected = true)
    (hd : s.sockOnce = true → s.count = 1 ∧ s.isConnected = false ∧ s.listed = false ∧ s.inRoom = false) (hi : s.inConnStore = false) :
    sockClose s = { s with sockOnce := true, isConnected := false, listed := false, inRoom := false, inConnStore := false, count := 1 } := by
  cases ho : s.sockOnce
  · rw [sockClose_dead s (hl ho).2 ho, (hl ho).1]
  · have := hd ho
    cases s
    simp_all [sockClose]

theorem inv_step (s : St) (l : Lbl) (s' : St) (es : List Unit) (h : LInv s) (hs : step true s l = some (s', es)) : LInv s' := by
  have ⟨h1, h2, h3, h4, h5, h6, _, h8⟩ := h
  -- what the clauses `live` and `dead` say of a socket that has started
  have hl (hne : s.pc ≠ .notStarted) (ho : s.sockOnce = false) : s.count = 0 ∧ s.isConnected = true := ⟨(h2 ho).1, ((h2 ho).2 hne).1⟩
  have hd (ho : s.sockOnce = true) : s.count = 1 ∧ s.isConnected = false ∧ s.listed = false ∧ s.inRoom = false :=
    let ⟨a, b, c, d, _⟩ := h3 ho; ⟨a, b, c, d⟩
  cases l with dsimp only [step] at hs
  | doConnect =>
    split at hs <;> cases hs
    rename_i hp
    have ho := (h5 hp).2.2.2
    exact ⟨h1, fun _ => ⟨(h2 ho).1, fun _ => ⟨rfl, rfl, rfl⟩⟩, fun h => by simp [ho] at h, fun _ => h4 (.inl hp),
      nofun, fun h => h.elim nofun nofun, nofun, nofun⟩
  | store =>
    split at hs <;> cases hs
    rename_i hp
    have hne : s.pc ≠ .notStarted := by simp [hp]
    exact ⟨h1, fun ho => ⟨(h2 ho).1, fun _ => (h2 ho).2 hne⟩, fun ho => let ⟨a, b, c, d⟩ := hd ho; ⟨a, b, c, d, nofun⟩,
      fun h => h.elim nofun nofun, nofun, fun _ _ => rfl, nofun, nofun⟩
  | check =>
    simp only [Bool.true_and] at hs
    split at hs
    · rename_i hp
      have hne : s.pc ≠ .notStarted := by simp [hp]
      split at hs <;> cases hs
      · -- the connection has ended meanwhile: the socket is closed on the spot
        rw [sockClose_eq (s := { s with pc := .checked, inConnStore := false }) (hl hne) hd rfl]
        exact LInv.of_closed _ _ _ h1 nofun
      · rename_i hf
        exact ⟨h1, fun ho => ⟨(h2 ho).1, fun _ => (h2 ho).2 hne⟩, fun ho => let ⟨a, b, c, d⟩ := hd ho; ⟨a, b, c, d, nofun⟩,
          fun h => h.elim nofun nofun, nofun, fun _ => h6 (.inl hp), fun _ hc => absurd hc hf, fun _ hsw => absurd (h1 hsw) hf⟩
    · cases hs
  | flag =>
    split at hs <;> cases hs
    rename_i hf
    have hsw : s.swept ≠ true := fun hsw => hf (h1 hsw)
    exact ⟨fun _ => rfl, h2, h3, h4, h5, h6, fun hp _ _ => h6 (.inr hp), fun _ h => absurd h hsw⟩
  | sweep =>
    simp only [Bool.and_eq_true] at hs
    split at hs
    · rename_i hf
      split at hs <;> cases hs
      · -- the socket is in the connection's store, so it has been stored: it is closed
        rename_i hin
        have hne : s.pc ≠ .notStarted := fun hp => by simp [h4 (.inl hp)] at hin
        rw [sockClose_eq (s := { s with swept := true, inConnStore := false }) (hl hne) hd rfl]
        exact LInv.of_closed _ _ _ (fun _ => hf.1) hne
      · rename_i hin
        have hin : s.inConnStore = false := by simpa using hin
        exact ⟨fun _ => hf.1, h2, h3, h4, h5, h6, fun _ _ => nofun,
          fun hp _ => ⟨(Bool.not_eq_false _).mp fun ho => by simp [h6 (.inr hp) ho] at hin, hin⟩⟩
    · cases hs
  | viaNamespace =>
    split at hs <;> cases hs
    rename_i hli
    -- a listed socket has started and has not been closed
    have hne : s.pc ≠ .notStarted := fun hp => by simp [(h5 hp).2.1] at hli
    have ho : s.sockOnce = false := Bool.eq_false_iff.mpr fun ho => by simp [(hd ho).2.2.1] at hli
    rw [sockClose_dead s (hl hne ho).2 ho, (hl hne ho).1]
    exact LInv.of_closed _ _ _ h1 hne

theorem inv_reachable : ∀ s, (sys true).Reachable s → LInv s :=
  Sys.inv_of_step (sys true) LInv (by constructor <;> simp [sys]) (fun s l s' es h hs => inv_step s l s' es h hs)

/-- in every reachable state the disconnect handlers have run at most once -/
theorem at_most_once (s : St) (h : (sys true).Reachable s) : s.count ≤ 1 := by
  have hi := inv_reachable s h
  cases ho : s.sockOnce
  · have := (hi.live ho).1; omega
  · have := (hi.dead ho).1; omega

/-- once the connection's end has been processed and the admission has run to completion — in
    whatever order the two interleaved — the handlers have run exactly once … -/
theorem exactly_once_after_end (s : St) (h : (sys true).Reachable s) (hp : s.pc = .checked) (hsw : s.swept = true) :
    s.count = 1 := by
  have hi := inv_reachable s h
  exact (hi.dead (hi.done_ hp hsw).1).1

/-- … and nothing of the socket remains: not listed, in no room, not in the connection's store -/
theorem no_trace_after_end (s : St) (h : (sys true).Reachable s) (hp : s.pc = .checked) (hsw : s.swept = true) :
    s.listed = false ∧ s.inRoom = false ∧ s.isConnected = false ∧ s.inConnStore = false := by
  have hi := inv_reachable s h
  have hd := hi.dead (hi.done_ hp hsw).1
  exact ⟨hd.2.2.1, hd.2.2.2.1, hd.2.1, (hi.done_ hp hsw).2⟩

/-- D20: without the re-check, a connection that ends while the middleware runs leaves a connected,
    listed socket behind that nothing will ever close -/
theorem Legacy.zombie_after_close_during_middleware :
    ((sys false).run {} [.flag, .sweep, .doConnect, .store, .check]).map (fun p => (p.1.isConnected, p.1.listed, p.1.count)) =
      some (true, true, 0) := by decide

/-! non-vacuity: the same schedule with the re-check -/
example : ((sys true).run {} [.flag, .sweep, .doConnect, .store, .check]).map (fun p => (p.1.isConnected, p.1.listed, p.1.count)) =
    some (false, false, 1) := by decide

end SioVerif.C06
