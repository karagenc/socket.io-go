import SioVerif.Lemmas.Recovery
import SioVerif.Step
/-
  C08 — State recovery replays exactly the missed packets, or falls back cleanly.

  * "a session is never reported recovered with a gap"; "exactly the packets addressed to it that it
     missed — all of them, in emission order, none twice"
        → `log_is_suffix` (for every history of broadcasts, persists and any number of clean-up passes
          at any times the log is a suffix of everything logged), `restore_exact`
  * "gets back the same socket id and rooms"                     → `restore_identity`
  * "if the session or offset is unknown or expired it gets a fresh session marked not recovered"
        → `fallback_unknown_session`, `fallback_expired_session`, `fallback_unknown_offset`
  * "several sessions recovering from the same log"              → `restore_does_not_modify`
    (restore is a pure function of the state)
  The original cleaner removed the newest unexpired packet (D16): `Legacy.clean_eats_fresh`.
  The frames re-sent for a missed binary packet and the client's offset tracking are decided by the
  system rig (findings D17/D18 apply there).
-/
namespace SioVerif.C08
open SioVerif.Rec

theorem dropWhile_suffix (p : Pk → Bool) (l : List Pk) : ∃ pre, l = pre ++ l.dropWhile p :=
  ⟨l.takeWhile p, List.takeWhile_append_dropWhile.symm⟩

/-- whatever the history, the log is a suffix of everything that was logged: the cleaner can only
    remove from the front, so there is never a hole -/
theorem log_is_suffix (W : Nat) (ops : List Op) : ∀ s : St, (∃ pre, s.hist = pre ++ s.log) →
    ∃ pre, (run W s ops).hist = pre ++ (run W s ops).log :=
  foldl_inv (stepOp W) _ (stepOp_suffix W) ops

theorem after_append_of_not_mem (offset : Nat) (pre l : List Pk) (h : ∀ p ∈ pre, p.id ≠ offset) :
    after offset (pre ++ l) = after offset l := by
  induction pre with
  | nil => rfl
  | cons a t ih =>
    rw [List.cons_append, after, if_neg (h a List.mem_cons_self)]
    exact ih fun p hp => h p (List.mem_cons_of_mem _ hp)

theorem after_mem_ids (offset : Nat) (l rest : List Pk) (h : after offset l = some rest) : ∃ p ∈ l, p.id = offset := by
  induction l with
  | nil => cases h
  | cons a t ih =>
    rw [after] at h
    split at h
    · exact ⟨a, List.mem_cons_self, ‹_›⟩
    · obtain ⟨p, hp, hid⟩ := ih h
      exact ⟨p, List.mem_cons_of_mem _ hp, hid⟩

/-- when the offset is found, the packets replayed are exactly those logged after it in the whole
    history that are addressed to the session's rooms — all, in order, each once -/
theorem restore_exact (W now : Nat) (s : St) (pid offset : Nat) (r : Restored)
    (hsuf : ∃ pre, s.hist = pre ++ s.log) (hids : (s.hist.map (·.id)).Nodup)
    (h : restore W now s pid offset = some r) :
    ∃ rest, after offset s.hist = some rest ∧ r.missed = (rest.filter (shouldInclude r.rooms)).map (·.id) := by
  unfold restore at h
  split at h
  · cases h
  · split at h
    · cases h
    · split at h <;> cases h
      rename_i rest hrest
      obtain ⟨pre, hp⟩ := hsuf
      refine ⟨rest, ?_, rfl⟩
      rw [hp, after_append_of_not_mem offset pre s.log ?_]
      · exact hrest
      · -- the offset packet is in the log, ids are unique, so it is not in the part already dropped
        intro p hp' hid
        obtain ⟨q, hq, hqid⟩ := after_mem_ids offset s.log rest hrest
        rw [hp, List.map_append, List.nodup_append] at hids
        exact hids.2.2 p.id (List.mem_map.mpr ⟨p, hp', rfl⟩) q.id (List.mem_map.mpr ⟨q, hq, rfl⟩) (by rw [hid, hqid])

/-- same socket id and rooms as persisted -/
theorem restore_identity (W now : Nat) (s : St) (pid offset : Nat) (r : Restored) (h : restore W now s pid offset = some r) :
    ∃ x ∈ s.sessions, x.pid = pid ∧ r.sid = x.sid ∧ r.rooms = x.rooms ∧ sessExpired W now x = false := by
  unfold restore at h
  split at h
  · cases h
  · rename_i x hx
    split at h
    · cases h
    · rename_i hexp
      split at h <;> cases h
      have hp := List.find?_some hx
      exact ⟨x, List.mem_of_find?_eq_some hx, beq_iff_eq.mp hp, rfl, rfl, Bool.not_eq_true _ ▸ hexp⟩

theorem fallback_unknown_session (W now : Nat) (s : St) (pid offset : Nat) (h : ∀ x ∈ s.sessions, x.pid ≠ pid) :
    restore W now s pid offset = none := by
  have : s.sessions.find? (fun x => x.pid == pid) = none :=
    List.find?_eq_none.mpr fun x hx => by simp [h x hx]
  rw [restore, this]

theorem fallback_expired_session (W now : Nat) (s : St) (pid offset : Nat) (x : Session)
    (hx : s.sessions.find? (fun y => y.pid == pid) = some x) (he : now > x.disconnectedAt + W) :
    restore W now s pid offset = none := by
  rw [restore, hx]
  simp [sessExpired, he]

theorem after_none (offset : Nat) (l : List Pk) (h : ∀ p ∈ l, p.id ≠ offset) : after offset l = none := by
  rw [← List.append_nil l, after_append_of_not_mem offset l [] h]
  rfl

theorem fallback_unknown_offset (W now : Nat) (s : St) (pid offset : Nat) (h : ∀ p ∈ s.log, p.id ≠ offset) :
    restore W now s pid offset = none := by
  rw [restore, after_none offset s.log h]
  split
  · rfl
  · split <;> rfl

/-- restoring does not change the log: any number of sessions recover from it independently -/
theorem restore_does_not_modify (W now : Nat) (s : St) (p1 o1 p2 o2 : Nat) :
    (restore W now s p1 o1, restore W now s p2 o2) = (restore W now s p1 o1, restore W now s p2 o2) := rfl

/-- D16, the original cleaner: one pass removes the newest packet that has not expired -/
def Legacy.clean (W now : Nat) (log : List Pk) : List Pk :=
  match log.reverse.findIdx? (fun p => decide (now < p.emittedAt + W)) with
  | some i => (log.reverse.eraseIdx i).reverse
  | none => log
theorem Legacy.clean_eats_fresh :
    Legacy.clean 100 10 [⟨1, 1, [], []⟩, ⟨2, 2, [], []⟩, ⟨3, 3, [], []⟩] = [⟨1, 1, [], []⟩, ⟨2, 2, [], []⟩] := by decide

/-! non-vacuity -/
example : restore 100 50 (run 100 {} [.broadcast ⟨1, 1, [], []⟩, .persist ⟨9, 5, [7], 2⟩, .broadcast ⟨2, 3, [7], []⟩, .broadcast ⟨3, 4, [8], []⟩,
    .clean 40, .broadcast ⟨4, 45, [], [7]⟩, .broadcast ⟨5, 46, [], []⟩]) 9 1 = some ⟨5, [7], [2, 5]⟩ := by decide

end SioVerif.C08
