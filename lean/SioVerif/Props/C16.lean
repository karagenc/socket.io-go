import SioVerif.Gen.Locks
import SioVerif.Step
/-
  C16 — The public API is safe under arbitrary concurrent use: no data race, no deadlock.

  What is proved here is the deadlock half, for mutexes, for every schedule and every program over
  the API, by the lock-order argument:
  * `no_deadlock` (generic): if a rank on lock classes increases along every edge of a graph, then no
     configuration whose "waits for l while holding l'" pairs are all edges of that graph contains a
     cycle of goroutines each waiting for a lock the next one holds;
  * `edges_increase_rank` : the graph the translator (/verif/lockgraph: SSA + call graph over /repo's
     current sources) computes — an edge a → b wherever b may be acquired while a is held, directly,
     through any chain of calls, or by an application handler called with a held (a handler may call
     any exported operation) — admits such a rank; the rank proposed by the translator is *checked*
     here edge by edge, not trusted;
  * `no_same_class_nesting` : no lock class is acquired while an instance of the same class is held
     (which the rank argument cannot order, and which for a RWMutex read lock is a self-deadlock
     once a writer waits);
  * `no_lock_left_held` : no function returns holding a lock it acquired without a deferred unlock;
  * `library_deadlock_free` : the three together;
  * `reachable_deadlock_free` : every configuration reachable by requests made at acquisition sites of the graph, grants and
     releases respects the graph (`lrun_inv`), so no execution - any number of goroutines, any schedule - reaches a mutex deadlock.
  Not proved (stated in DESIGN.md): data-race freedom (the race detector runs over generated
  concurrent programs instead: testing, not proof), and blocking through channels, WaitGroups and
  sync.Once, which the lock graph does not see (the hang watchdog does).
-/
namespace SioVerif.C16

/-- which goroutine holds which lock instance, and which lock it is blocked on -/
structure Cfg (G L : Type) where
  holds : G → L → Prop
  waits : G → Option L

/-- a deadlock among mutexes: a cycle g 0 … g (n-1) in which g i waits for the lock l i, which
    g (i+1 mod n) holds -/
def Deadlock {G L : Type} (c : Cfg G L) (n : Nat) (g : Nat → G) (l : Nat → L) : Prop :=
  0 < n ∧ ∀ i, i < n → c.waits (g i) = some (l i) ∧ c.holds (g ((i + 1) % n)) (l i)

/-- the discipline the translator's graph describes: a goroutine waits for l while holding l' only
    if (class of l', class of l) is an edge -/
def Respects {G L : Type} (cls : L → Nat) (edges : List (Nat × Nat)) (c : Cfg G L) : Prop :=
  ∀ g l l', c.waits g = some l → c.holds g l' → (cls l', cls l) ∈ edges

theorem no_increasing_cycle (n : Nat) (w : Nat → Nat) (hn : 0 < n) (h : ∀ i, i < n → w i < w ((i + 1) % n)) : False := by
  obtain ⟨m, rfl⟩ := Nat.exists_eq_add_one_of_ne_zero (Nat.ne_of_gt hn)
  -- along 0, 1, …, m the weight grows by at least one per edge, and the last edge leads back to 0
  have hk : ∀ k, k ≤ m → w 0 + k ≤ w k := by
    intro k
    induction k with
    | zero => exact fun _ => Nat.le_refl _
    | succ k ih =>
      intro hk
      have h1 := h k (Nat.lt_succ_of_lt hk)
      rw [Nat.mod_eq_of_lt (Nat.succ_lt_succ hk)] at h1
      exact Nat.le_trans (Nat.succ_le_succ (ih (Nat.le_of_succ_le hk))) h1
  have hlast := h m (Nat.lt_succ_self m)
  rw [Nat.mod_self] at hlast
  exact Nat.lt_irrefl _ (Nat.lt_of_lt_of_le hlast (Nat.le_trans (Nat.le_add_right _ _) (hk m (Nat.le_refl m))))

/-- the lock-order theorem -/
theorem no_deadlock {G L : Type} (rank : Nat → Nat) (edges : List (Nat × Nat))
    (hrank : ∀ e ∈ edges, rank e.1 < rank e.2) (cls : L → Nat) (c : Cfg G L) (hc : Respects cls edges c) :
    ∀ n g l, ¬ Deadlock c n g l := by
  intro n g l ⟨hn, hcyc⟩
  apply no_increasing_cycle n (fun i => rank (cls (l i))) hn
  intro i hi
  -- g (i+1 mod n) holds l i and waits for l (i+1 mod n)
  have hholds := (hcyc i hi).2
  have hwaits := (hcyc ((i + 1) % n) (Nat.mod_lt _ hn)).1
  exact hrank _ (hc _ _ _ hwaits hholds)

def rankOf (i : Nat) : Nat := Gen.Locks.rank.getD i 0

/-- the translator's rank increases along every edge of the lock graph of the current sources -/
theorem edges_increase_rank : ∀ e ∈ Gen.Locks.edges, rankOf e.1 < rankOf e.2 := by decide

theorem no_same_class_nesting : Gen.Locks.selfEdges = 0 := by decide

theorem no_lock_left_held : Gen.Locks.leftHeld = 0 := by decide

/-- every configuration that respects the lock graph of the current sources is free of mutex
    deadlock, for any number of goroutines and any schedule -/
theorem library_deadlock_free {G L : Type} (cls : L → Nat) (c : Cfg G L) (hc : Respects cls Gen.Locks.edges c) :
    ∀ n g l, ¬ Deadlock c n g l :=
  no_deadlock rankOf Gen.Locks.edges edges_increase_rank cls c hc

/-! ### from acquisition sites to configurations

  `Respects` is not an assumption about executions but a consequence of what the translator reports about *sites*: if every request
  for a lock l made while holding h is an edge (class h, class l), then every configuration any execution can reach respects the graph. -/

/-- goroutines and lock instances are numbered; a goroutine holds a list of locks and may be blocked on one -/
structure LState where
  held : Nat → List Nat
  waiting : Nat → Option Nat

inductive LOp where
  | request (g l : Nat)   -- g starts to acquire l (and blocks until granted)
  | grant (g : Nat)       -- the lock g waits for is free: g gets it
  | release (g l : Nat)

/-- one step; a request is only made where the program has an acquisition site for it: every lock held is ordered before l in `edges` -/
def lstep (cls : Nat → Nat) (edges : List (Nat × Nat)) (s : LState) : LOp → LState
  | .request g l =>
    if (s.waiting g).isNone && (s.held g).all (fun h => (cls h, cls l) ∈ edges) then
      { s with waiting := fun x => if x = g then some l else s.waiting x }
    else s
  | .grant g =>
    match s.waiting g with
    | some l => { held := fun x => if x = g then l :: s.held g else s.held x, waiting := fun x => if x = g then none else s.waiting x }
    | none => s
  | .release g l => { s with held := fun x => if x = g then (s.held g).erase l else s.held x }

def lrun (cls : Nat → Nat) (edges : List (Nat × Nat)) (s : LState) (ops : List LOp) : LState := ops.foldl (lstep cls edges) s

def LInv (cls : Nat → Nat) (edges : List (Nat × Nat)) (s : LState) : Prop :=
  ∀ g l, s.waiting g = some l → ∀ h ∈ s.held g, (cls h, cls l) ∈ edges

theorem lstep_inv (cls : Nat → Nat) (edges : List (Nat × Nat)) (s : LState) (op : LOp) (hi : LInv cls edges s) :
    LInv cls edges (lstep cls edges s op) := by
  -- an operation of goroutine `g` changes the row of `g` only: for every other goroutine `hi` applies as it is
  cases op with dsimp only [lstep]
  | request g l =>
    split
    · rename_i hc
      intro g'
      dsimp only
      by_cases hg : g' = g
      · -- the guard orders every lock held before the one requested
        subst hg
        rw [if_pos rfl]
        rintro _ ⟨⟩ h hh
        simpa using List.all_eq_true.mp (Bool.and_eq_true_iff.mp hc).2 h hh
      · rw [if_neg hg]
        exact hi g'
    · exact hi
  | grant g =>
    split
    · intro g'
      dsimp only
      by_cases hg : g' = g
      · rw [if_pos hg]
        nofun
      · rw [if_neg hg, if_neg hg]
        exact hi g'
    · exact hi
  | release g l =>
    intro g'
    dsimp only
    by_cases hg : g' = g
    · subst hg
      rw [if_pos rfl]
      exact fun l' hw h hh => hi g' l' hw h (List.mem_of_mem_erase hh)
    · rw [if_neg hg]
      exact hi g'

theorem lrun_inv (cls : Nat → Nat) (edges : List (Nat × Nat)) (ops : List LOp) : ∀ s, LInv cls edges s → LInv cls edges (lrun cls edges s ops) :=
  foldl_inv (lstep cls edges) (LInv cls edges) (lstep_inv cls edges) ops

/-- every configuration reachable from the empty one by requests made at acquisition sites of the graph, grants and releases - any
    number of goroutines, any schedule - respects the graph, hence (with a rank) contains no cycle of goroutines each waiting for a
    lock the next one holds -/
theorem reachable_deadlock_free (cls : Nat → Nat) (ops : List LOp) :
    let s := lrun cls Gen.Locks.edges ⟨fun _ => [], fun _ => none⟩ ops
    ∀ n g l, ¬ Deadlock (G := Nat) (L := Nat) ⟨fun x y => y ∈ s.held x, s.waiting⟩ n g l := by
  intro s
  apply library_deadlock_free cls
  intro g l l' hw hh
  exact lrun_inv cls Gen.Locks.edges ops _ (by intro g l h; simp at h) g l hw l' hh

/-! non-vacuity: the graph is not empty, and a graph with a cycle admits no rank (two locks taken in
    both orders deadlock) -/
example : Gen.Locks.edges ≠ [] := by decide
example : Deadlock (G := Nat) (L := Nat) ⟨fun g l => g = l, fun g => some ((g + 1) % 2)⟩ 2 id (fun i => (i + 1) % 2) :=
  ⟨Nat.zero_lt_two, fun _ _ => ⟨rfl, rfl⟩⟩

end SioVerif.C16
