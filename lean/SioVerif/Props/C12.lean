import SioVerif.Lemmas.Middleware
/-
  C12 — Middlewares gate admission and events: nothing passes that a middleware rejected.

  * "connected — listed, joined to its own room, connection handlers run — only after every namespace
     middleware accepted it, in registration order"          → `admission_gated`, `called_in_order`
  * "the first rejection stops the chain, the client receives CONNECT_ERROR carrying that rejection,
     and nothing of the socket remains on the server"        → `first_rejection_stops`
  * "an event they reject never reaches the handler" and they are called in order before it
                                                             → `event_gated`
  The recovered-session exception (no middlewares unless UseMiddlewares) is an explicit hypothesis.
-/
namespace SioVerif.C12
open SioVerif.Mw

theorem runChain_connected (chain : List Verdict) : ∀ i, Eff.connected ∈ runChain i chain → ∀ v ∈ chain, v = .accept := by
  induction chain with
  | nil => intro i _ v hv; cases hv
  | cons a rest ih =>
    intro i h v hv
    cases a with
    | accept =>
      simp only [runChain, List.mem_cons, reduceCtorEq, false_or] at h
      rcases List.mem_cons.mp hv with rfl | hv'
      · rfl
      · exact ih (i + 1) h v hv'
    | reject d => simp [runChain] at h

/-- a socket becomes connected only if every middleware of the chain accepted it -/
theorem admission_gated (chain : List Verdict) (recovered useMw : Bool) (hx : (recovered && !useMw) = false)
    (h : Eff.connected ∈ admission chain recovered useMw) : ∀ v ∈ chain, v = .accept := by
  unfold admission at h
  rw [hx] at h
  exact runChain_connected chain 0 h

theorem runChain_all_accept (chain : List Verdict) (h : ∀ v ∈ chain, v = .accept) : ∀ i,
    runChain i chain = (List.range' i chain.length).map .mwCalled ++ admitted := by
  intro i
  have := runChain_append chain [] h i
  rwa [List.append_nil] at this

/-- when all accept: every middleware is called, in registration order, before anything else -/
theorem called_in_order (chain : List Verdict) (h : ∀ v ∈ chain, v = .accept) :
    admission chain false false = (List.range chain.length).map .mwCalled ++ admitted := by
  simp only [admission, Bool.false_and, Bool.false_eq_true, ↓reduceIte]
  rw [runChain_all_accept chain h 0, List.range_eq_range']

/-- the first rejection (at position k, after k accepting middlewares) stops the chain: the later
    middlewares are not called, the rooms are left, CONNECT_ERROR carries that rejection, and none of
    listed / own room / CONNECT / connected / connection handlers happens -/
theorem first_rejection_stops (pre post : List Verdict) (d : Nat) (hpre : ∀ v ∈ pre, v = .accept) : ∀ i,
    runChain i (pre ++ .reject d :: post) =
      (List.range' i (pre.length + 1)).map .mwCalled ++ [.leaveAll, .connectError d] := by
  intro i
  rw [runChain_append pre _ hpre, List.range'_1_concat, List.map_append, List.append_assoc]
  rfl

theorem rejection_leaves_nothing (pre post : List Verdict) (d : Nat) (hpre : ∀ v ∈ pre, v = .accept) :
    ∀ e ∈ admission (pre ++ .reject d :: post) false false, e ∉ admitted := by
  intro e he
  simp only [admission, Bool.false_and, Bool.false_eq_true, ↓reduceIte] at he
  rw [first_rejection_stops pre post d hpre 0] at he
  simp only [List.mem_append, List.mem_map, List.mem_cons, List.not_mem_nil, or_false] at he
  rcases he with ⟨k, _, rfl⟩ | rfl | rfl <;> simp [admitted]

/-- event middlewares: the handler runs iff all accept; they are called in order up to and including
    the first that rejects -/
theorem event_gated (chain : List Bool) : ∀ i,
    ((eventGate i chain).2 = true ↔ ∀ b ∈ chain, b = true) ∧
    (∀ pre post, chain = pre ++ false :: post → (∀ b ∈ pre, b = true) →
      (eventGate i chain).1 = List.range' i (pre.length + 1)) := by
  induction chain with
  | nil => exact fun i => ⟨⟨fun _ => nofun, fun _ => rfl⟩, fun pre post h => by cases pre <;> cases h⟩
  | cons a rest ih =>
    intro i
    cases a with
    | false =>
      refine ⟨⟨nofun, fun h => h false List.mem_cons_self⟩, fun pre post h hp => ?_⟩
      cases pre with
      | nil => rfl
      | cons p ps =>
        -- the chain starts with `false`, yet `pre` is all `true`
        cases h
        cases hp false List.mem_cons_self
    | true =>
      refine ⟨by simp [eventGate, (ih (i + 1)).1], fun pre post h hp => ?_⟩
      cases pre with
      | nil => cases h
      | cons p ps =>
        cases h
        exact congrArg (i :: ·) ((ih (i + 1)).2 ps post rfl fun b hb => hp b (List.mem_cons_of_mem _ hb))

/-! non-vacuity -/
example : admission [.accept, .reject 7, .accept] false false = [.mwCalled 0, .mwCalled 1, .leaveAll, .connectError 7] := by decide
example : admission [.reject 1] true false = admitted := by decide

end SioVerif.C12
