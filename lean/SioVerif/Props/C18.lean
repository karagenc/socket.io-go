import SioVerif.Lemmas.HandlerStore
/-
  C18 — Handlers: On fires every time, Once at most once, Off removes just what it names.

  * "On … run for every matching occurrence until removed"        → `on_fires_every_time`
  * "Once … at most one occurrence even when occurrences race"    → `once_at_most_once`
    (every store operation is one critical section, so a race is some sequence of `Op`s;
     the theorem quantifies over all sequences)
  * "Off given a handler removes exactly that handler and no other;
     given none removes all handlers of that event"               → `off_removes_exactly`, `off_none_removes_event`
  * "none of these calls … disturbs the remaining handlers"       → `off_keeps_order`, `other_events_untouched`
  * "none of these calls panics": the model of the repaired code has no failing step (the original
     remove-while-iterating loop did: D11, see known_findings.json); the correspondence harness
     runs every operation under `recover`.
-/
namespace SioVerif.C18
open SioVerif.HS

/-- operation `op` removes (or may remove) the On-registration `r` -/
def removes (r : Reg) : Op → Bool
  | .off ev hs => named ev hs r
  | .offAll => true
  | _ => false

theorem step_keeps_on (s : Store) (op : Op) (r : Reg) (hr : r ∈ s.on_) (hn : removes r op = false) :
    r ∈ (step s op).1.on_ := by
  cases op <;> simp_all [step, removes]

theorem fire_outputs_on (s : Store) (r : Reg) (hr : r ∈ s.on_) : r ∈ (step s (.fire r.ev)).2 := by
  simp [step, hr]

/-- a handler registered with On is handed out by every occurrence of its event, for as long as no
    Off names it — whatever else happens in between -/
theorem on_fires_every_time (s : Store) (r : Reg) (hr : r ∈ s.on_) (ops : List Op)
    (hn : ∀ op ∈ ops, removes r op = false) :
    r ∈ (step (runState s ops) (.fire r.ev)).2 := by
  induction ops generalizing s with
  | nil => exact fire_outputs_on s r hr
  | cons op ops ih =>
    exact ih (step s op).1 (step_keeps_on s op r hr (hn op List.mem_cons_self)) fun o ho =>
      hn o (List.mem_cons_of_mem _ ho)

/-- number of times `r` is registered with Once in a history -/
def onceRegs (r : Reg) : List Op → Nat
  | [] => 0
  | .once r' :: ops => (if r' = r then 1 else 0) + onceRegs r ops
  | _ :: ops => onceRegs r ops

/-- `r` is never registered with On / as a sub-handler in the history -/
def neverOn (r : Reg) : List Op → Bool
  | [] => true
  | .on r' :: ops => r' != r && neverOn r ops
  | .sub r' :: ops => r' != r && neverOn r ops
  | _ :: ops => neverOn r ops

theorem count_filter_split (l : List Reg) (r : Reg) (p : Reg → Bool) :
    (l.filter p).count r + (l.filter (fun x => !p x)).count r = l.count r :=
  (List.countP_eq_countP_filter_add l (· == r) p).symm

theorem onceRegs_cons (r : Reg) (op : Op) (ops : List Op) :
    onceRegs r (op :: ops) = onceRegs r ops + if op = .once r then 1 else 0 := by
  cases op <;> simp [onceRegs, Nat.add_comm]

theorem neverOn_cons (r : Reg) (op : Op) (ops : List Op) :
    neverOn r (op :: ops) = true ↔ (op ≠ .on r ∧ op ≠ .sub r) ∧ neverOn r ops = true := by
  cases op <;> simp [neverOn]

/-- Once: over any history (any interleaving of occurrences, registrations and removals), a
    registration made with Once is handed out at most as many times as it was registered —
    at most once for a single registration -/
theorem once_at_most_once_general (r : Reg) (ops : List Op) : ∀ s : Store,
    r ∉ s.on_ → r ∉ s.subs → neverOn r ops = true →
    (outputs s ops).count r ≤ s.once_.count r + onceRegs r ops := by
  induction ops with
  | nil => exact fun s _ _ _ => Nat.zero_le _
  | cons op ops ih =>
    intro s h1 h2 h3
    obtain ⟨⟨hon, hsub⟩, h3⟩ := (neverOn_cons r op ops).mp h3
    obtain ⟨h1', h2'⟩ := step_keeps_absent s op r hon.symm hsub.symm h1 h2
    have := ih (step s op).1 h1' h2' h3
    have := step_once_count s op r h1 h2
    rw [outputs, List.count_append, onceRegs_cons]
    omega

/-- the usual reading: registered once, on an empty store, never with On ⇒ at most one invocation -/
theorem once_at_most_once (r : Reg) (ops : List Op) (h1 : onceRegs r ops = 1) (h2 : neverOn r ops = true) :
    (outputs {} ops).count r ≤ 1 := by
  have := once_at_most_once_general r ops {} List.not_mem_nil List.not_mem_nil h2
  rwa [h1] at this

/-- Off removes exactly the registrations it names, from both lists -/
theorem off_removes_exactly (s : Store) (ev : Nat) (hs : List Nat) (r : Reg) :
    (r ∈ (step s (.off ev hs)).1.on_ ↔ r ∈ s.on_ ∧ named ev hs r = false) ∧
    (r ∈ (step s (.off ev hs)).1.once_ ↔ r ∈ s.once_ ∧ named ev hs r = false) := by
  simp [step]

/-- given no handler, Off removes every handler of that event (and of no other) -/
theorem off_none_removes_event (s : Store) (ev : Nat) (r : Reg) :
    r ∈ (step s (.off ev [])).1.on_ ↔ r ∈ s.on_ ∧ r.ev ≠ ev := by
  simp [step, named]

/-- the remaining handlers keep their relative order -/
theorem off_keeps_order (s : Store) (ev : Nat) (hs : List Nat) :
    (step s (.off ev hs)).1.on_.Sublist s.on_ ∧ (step s (.off ev hs)).1.once_.Sublist s.once_ := by
  simp [step]

theorem filter_filter_of_imp (l : List Reg) (p q : Reg → Bool) (h : ∀ x, p x = true → q x = true) :
    (l.filter q).filter p = l.filter p := by
  rw [List.filter_filter]
  exact List.filter_congr fun x _ => Bool.and_eq_left_iff_imp.mpr (h x)

/-- operations on one event never change what another event's occurrence hands out -/
theorem other_events_untouched (s : Store) (ev ev' : Nat) (hs : List Nat) (hne : ev' ≠ ev) :
    (step (step s (.off ev hs)).1 (.fire ev')).2 = (step s (.fire ev')).2 ∧
    (step (step s (.fire ev)).1 (.fire ev')).2 = (step s (.fire ev')).2 := by
  have himp : ∀ x : Reg, (x.ev == ev') = true → (!named ev hs x) = true := by
    intro x hx
    simp only [beq_iff_eq] at hx
    simp [named, hx, hne]
  have himp2 : ∀ x : Reg, (x.ev == ev') = true → (x.ev != ev) = true := by
    intro x hx
    simp only [beq_iff_eq] at hx
    simp [hx, hne]
  constructor
  · simp only [step, filter_filter_of_imp _ _ _ himp]
  · simp only [step, filter_filter_of_imp _ _ _ himp2]

/-! non-vacuity -/
example : (outputs {} [.once ⟨0, 1, 7⟩, .fire 0, .fire 0]).count ⟨0, 1, 7⟩ = 1 := by decide
example : removes ⟨0, 1, 7⟩ (.off 0 [8]) = false ∧ removes ⟨0, 1, 7⟩ (.off 1 []) = false := by decide

end SioVerif.C18
