import SioVerif.Inst
import SioVerif.Lemmas.EioCodec
import SioVerif.Lemmas.WtFrame
/-
  C11 — Engine.IO framing round-trips and matches protocol v4 in every transport's form.

  Reading of the property:
  * "packets survive encoding and decoding unchanged in every framing"  → `single_roundtrip`,
    `payload_roundtrip`, `wt_roundtrip`
  * "the bytes produced are those of the Engine.IO v4 protocol"          → `constants_are_v4`
    (the codec is a function of its constants; these are the protocol document's)
  * "the advertised encoded length equal to the real one"                → `encodedLen_exact`,
    `payloadsLen_exact`
  * "decoding arbitrary bytes never panics"                              → `decode_total`,
    `decodePayloads_total`, `wt_next_total`
  * "a frame header never makes the reader allocate beyond the limit"    → `wt_alloc_bounded`

  All theorems are about the model instantiated at the constants the translator extracted from
  the current source (`Inst.eioParams`, `Inst.wtParams`); the side conditions are discharged by
  `decide`, so a changed constant re-opens them.
-/
namespace SioVerif.C11
open SioVerif.Eio SioVerif.Wt

abbrev P : Params := Inst.eioParams
abbrev W : WtParams := Inst.wtParams

/-- the constants in the source are the Engine.IO v4 ones -/
theorem constants_are_v4 : P = specParams := by decide

theorem codec_consistent : P.Consistent := by decide

/-- what `send` writes is what `nextPacket` tests, and the 8-byte length is read at full width -/
theorem wt_consistent : W.Consistent := by decide

theorem wt_guards : W.checksLimit = true ∧ W.rejectsNegative = true := by decide

theorem single_roundtrip (p : Packet) (hw : p.Wf P) (supportsBinary : Bool) :
    decode P (supportsBinary && p.isBinary) (encode P supportsBinary p) = .ok p :=
  decode_encode P codec_consistent p hw supportsBinary

theorem encodedLen_exact (p : Packet) (sb : Bool) : (encode P sb p).length = encodedLen sb p :=
  encode_length P sb p

theorem payloadsLen_exact (ps : List Packet) : (encodePayloads P ps).length = encodedPayloadsLen ps :=
  payloads_length P ps

/-- sequences of 1..N packets; text data may hold anything except the record separator -/
theorem payload_roundtrip (ps : List Packet) (hne : ps ≠ [])
    (hw : ∀ p ∈ ps, p.Wf P ∧ (p.isBinary = false → P.delim ∉ p.data)) :
    decodePayloads P (encodePayloads P ps) = .ok ps :=
  decodePayloads_encodePayloads P codec_consistent ps hne hw

/-- the empty sequence: nothing is produced, and nothing decodes to "no packets" -/
theorem payload_empty : encodePayloads P [] = [] ∧ decodePayloads P [] = .error .invalidPacketSize := by
  decide

/-- WebTransport frames of any length below 2^63 (all three prefix forms and their boundaries) -/
theorem wt_roundtrip (lim : Option Nat) (p : Packet) (rest : Bytes) (hw : p.Wf P)
    (hlen : encodedLen true p < 2 ^ 63)
    (hl : ∀ l, lim = some l → l > 0 → encodedLen true p ≤ l) :
    next P W lim (send P W p ++ rest) = ⟨.ok (p, rest), encodedLen true p⟩ :=
  next_send P W codec_consistent wt_consistent lim p rest hw hlen hl

theorem wt_alloc_bounded (l : Nat) (hl : l > 0) (inp : Bytes) : (next P W (some l) inp).allocated ≤ l :=
  next_alloc P W l inp wt_guards.1 hl

theorem decode_total (bf : Bool) (b : Bytes) : (decode P bf b).isPanic = false := decode_no_panic P bf b

theorem decodePayloads_total (b : Bytes) : (decodePayloads P b).isPanic = false :=
  decodeAll_no_panic P _

theorem wt_next_total (lim : Option Nat) (inp : Bytes) : (next P W lim inp).out.isPanic = false :=
  next_no_panic P W lim inp (Or.inl wt_guards.2)

/-! non-vacuity: concrete instances of the hypotheses -/
example : (⟨true, 4, [1, 2, 3]⟩ : Packet).Wf P := by decide
example : (⟨false, 2, [112, 114]⟩ : Packet).Wf P ∧ P.delim ∉ ([112, 114] : Bytes) := by decide
example : decodePayloads P (encodePayloads P [⟨false, 4, [104, 105]⟩, ⟨true, 4, [0, 255, 30]⟩]) =
    .ok [⟨false, 4, [104, 105]⟩, ⟨true, 4, [0, 255, 30]⟩] := by decide

/-! the defect of the original code, kept as a negative witness (D5): with the 8-byte length read
    at 32 bits a 65 536-byte frame is announced to the payload reader as 0 bytes -/
theorem Legacy.wt_len64_read_as_zero : beVal ((beBytes 8 65536).take (32 / 8)) = 0 := by decide

end SioVerif.C11
