import SioVerif.Model.Ack
import SioVerif.Gen.Consts
/-
  C03 — Acks fire at most once, exactly once with a timeout, and carry the right reply.

  * "invoked at most once, and only with the arguments the peer passed to the ack function of that
     very event"                                        → `at_most_once`, `reply_is_a_received_reply`
  * "if a timeout is set it is invoked exactly once … whatever the race between reply and timer"
                                                        → `exactly_once_with_timeout`
  * "with the peer's reply when that arrives in time, otherwise with ErrAckTimeout"
                                                        → `reply_first_wins`, `timer_first_wins`
  * replying side: one ACK per received event          → `one_reply_per_event`
  * "whether the packet was sent or still buffered offline, text or binary; and the socket remains
     usable afterwards"                                 → `purge_exact` (the purge of the offline
     buffer removes exactly the frames of that event); the original purge loop panicked for a packet
     of several frames (D15, repaired) — exercised by the timed rig
-/
namespace SioVerif.C03
open SioVerif SioVerif.Ack

/-- the inductive invariant: at most one invocation; its kind is recorded in the flags -/
structure AckInv (s : St) : Prop where
  none_yet : s.called = false → s.timedOut = false → s.invocations = []
  called_one : s.called = true → s.invocations.length = 1 ∧ s.inMap = false ∧ s.timedOut = false
  timed_one : s.timedOut = true → s.invocations = [.timeout] ∧ s.inMap = false ∧ s.timerFired = true ∧ s.called = false
  fired_one : s.timerFired = true → s.invocations.length = 1
  from_reply : ∀ r, Inv.reply r ∈ s.invocations → r ∈ s.replies

theorem inv_step (ht : Bool) (s : St) (l : Lbl) (s' : St) (es : List Inv) (h : AckInv s)
    (hs : step ht s l = some (s', es)) : AckInv s' := by
  obtain ⟨inMap, called, timedOut, fired, invs, reps⟩ := s
  cases l with dsimp only [step] at hs
  | reply r =>
    cases inMap with
    | false =>
      -- not in the map any more: only the history grows
      cases hs
      exact { h with from_reply := fun r' hr' => List.mem_append_left _ (h.from_reply r' hr') }
    | true =>
      -- still in the map, so neither called nor timed out: nothing was invoked yet, and the callback runs with this reply
      obtain rfl : called = false := Bool.eq_false_iff.mpr fun hc => nomatch (h.called_one hc).2.1
      obtain rfl : timedOut = false := Bool.eq_false_iff.mpr fun hto => nomatch (h.timed_one hto).2.1
      obtain rfl : invs = [] := h.none_yet rfl rfl
      cases hs
      exact ⟨nofun, fun _ => ⟨rfl, rfl, rfl⟩, nofun, fun hf => (nomatch h.fired_one hf), fun r' hr' => by
        cases List.mem_singleton.mp hr'
        exact List.mem_concat_self⟩
  | timer =>
    -- enabled only with a timeout set and the timer not yet fired
    cases ht <;> cases fired <;> cases called <;> cases hs
    · -- not called, and not timed out since the timer had not fired: the callback runs with ErrAckTimeout
      obtain rfl : timedOut = false := Bool.eq_false_iff.mpr fun hto => nomatch (h.timed_one hto).2.2.1
      obtain rfl : invs = [] := h.none_yet rfl rfl
      exact ⟨nofun, nofun, fun _ => ⟨rfl, rfl, rfl, rfl⟩, fun _ => rfl, by simp⟩
    · -- called already: the timer is a no-op
      exact { h with timed_one := fun hto => (nomatch (h.timed_one hto).2.2.2), fired_one := fun _ => (h.called_one rfl).1 }

theorem inv_reachable (ht : Bool) : ∀ s, (sys ht).Reachable s → AckInv s :=
  Sys.inv_of_step (sys ht) AckInv
    ⟨fun _ _ => rfl, fun h => (by cases h), fun h => (by cases h), fun h => (by cases h), fun r h => (by cases h)⟩
    (inv_step ht)

/-- however replies (repeated, invented) and the timer interleave, the callback runs at most once -/
theorem at_most_once (ht : Bool) (s : St) (h : (sys ht).Reachable s) : s.invocations.length ≤ 1 := by
  have hi := inv_reachable ht s h
  cases hc : s.called with
  | true => exact Nat.le_of_eq (hi.called_one hc).1
  | false =>
    cases hto : s.timedOut with
    | true => exact Nat.le_of_eq (congrArg List.length (hi.timed_one hto).1)
    | false => exact hi.none_yet hc hto ▸ Nat.zero_le 1

/-- and if it ran with a reply, that reply is one that arrived for this very id -/
theorem reply_is_a_received_reply (ht : Bool) (s : St) (h : (sys ht).Reachable s) (r : Nat)
    (hr : Inv.reply r ∈ s.invocations) : r ∈ s.replies :=
  (inv_reachable ht s h).from_reply r hr

/-- with a timeout: once the timer has fired, the callback has run exactly once — whatever the
    order of reply and timer, duplicate replies included -/
theorem exactly_once_with_timeout (s : St) (h : (sys true).Reachable s) (hf : s.timerFired = true) :
    s.invocations.length = 1 :=
  (inv_reachable true s h).fired_one hf

/-- the reply is processed before the timer: the callback gets the reply, the timer is a no-op -/
theorem reply_first_wins (r : Nat) :
    ((sys true).run {} [.reply r, .timer]).map (fun p => (p.1.invocations, p.2)) = some ([.reply r], [.reply r]) := rfl

/-- the timer is processed first: ErrAckTimeout, and the late reply is dropped -/
theorem timer_first_wins (r : Nat) :
    ((sys true).run {} [.timer, .reply r]).map (fun p => (p.1.invocations, p.2)) = some ([.timeout], [.timeout]) := rfl

/-- the replying side sends at most one ACK per received event, however many handlers call the ack
    function, and it carries the first call's arguments -/
theorem one_reply_per_event (calls : List Nat) : (replySide calls).length ≤ 1 ∧ (∀ r, r ∈ replySide calls → calls.head? = some r) := by
  cases calls <;> simp [replySide]

/-- the purge after an offline timeout removes exactly the frames of that event and keeps the order
    of the others -/
theorem purge_exact (id : Nat) (buf : List (Option Nat × Nat)) :
    (∀ f ∈ purge id buf, f.1 ≠ some id) ∧ (purge id buf).Sublist buf ∧
    (∀ f ∈ buf, f.1 ≠ some id → f ∈ purge id buf) := by
  simp only [purge, List.mem_filter, bne_iff_ne]
  exact ⟨fun f hf => hf.2, List.filter_sublist, fun f hf hne => ⟨hf, hne⟩⟩

/-- "of that very event": the model's `replies` are the replies that carry this handler's id. On the
    server the ids of a namespace come from one counter (read from the source), so a reply to an
    event sent to an earlier socket of the same client never carries the id of an event of its new
    socket; the rig replays exactly that history (`ackAcrossSockets`) -/
theorem server_ack_ids_from_namespace_counter : Gen.sioServerAckIdFromNamespace = true := by decide

/-- one counter, read-and-incremented under its mutex: the ids handed out - to whichever sockets of the namespace, in whatever
    interleaving - are the numbers start, start+1, ... and pairwise distinct, so no two events of a namespace share an ack id -/
def handOut (start n : Nat) : List Nat := (List.range n).map (start + ·)

theorem counter_ids_distinct (start n : Nat) : (handOut start n).Nodup := by
  unfold handOut
  exact List.Pairwise.map _ (fun a b (h : a ≠ b) e => h (Nat.add_left_cancel e)) (List.nodup_range (n := n))

theorem counter_ids_distinct_across_sockets (start n : Nat) (owner : Nat → Nat) (i j : Nat) (hi : i < n) (hj : j < n)
    (hne : i ≠ j) : (handOut start n)[i]'(by simp [handOut, hi]) ≠ (handOut start n)[j]'(by simp [handOut, hj]) := by
  have _ := owner
  exact fun e => hne ((List.getElem_inj (counter_ids_distinct start n)).mp e)

/-! non-vacuity: a race with a duplicate and an invented reply -/
example : ((sys true).run {} [.reply 5, .reply 5, .timer, .reply 9]).map (fun p => p.1.invocations) = some [.reply 5] := by decide

end SioVerif.C03
