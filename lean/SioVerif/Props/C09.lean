import SioVerif.Inst
import SioVerif.Lemmas.SioCodec
/-
  C09 — Socket.IO encoding round-trips, matches the v5 format, leaves its input intact.

  What is the repository's own code is modelled and proved here; JSON (encoding/json behind the
  pluggable serializer) is a parameter whose contract is sampled by the harness.
  * header: type, namespace, ack id, attachment count  → `header_roundtrip`, `header_roundtrip_event`
  * event name "any unicode string, quotes and backslashes included" → `name_scan_sound`
  * "every binary attachment byte-identical and in its place"        → `attachments_roundtrip`,
    `attachment_count`
  * reassembly of the produced frames                                 → `frames_reassemble`
  * "frames are exactly those the v5 protocol prescribes"            → `packet_types_are_v5`, `header_example_v5`
  * "encoding does not change the values it was given": FALSE of the current code for values that
    hold their binaries behind pointers / in maps / in structs (recorded finding D17); the
    harness evaluates the predicate directly and reports it as KNOWN-FINDING.
-/
namespace SioVerif.C09
open SioVerif.Sio

/-- the packet type numbers in parser/packet.go are the Socket.IO v5 ones -/
theorem packet_types_are_v5 :
    [Gen.sioTypeConnect, Gen.sioTypeDisconnect, Gen.sioTypeEvent, Gen.sioTypeAck, Gen.sioTypeConnectError,
     Gen.sioTypeBinaryEvent, Gen.sioTypeBinaryAck] = [0, 1, 2, 3, 4, 5, 6] := by decide

/-- BINARY_EVENT, one attachment, namespace `/admin`, ack id 12 prints as `5`,`1`,`-`,`/admin`,`,`,`12` (protocol document) -/
theorem header_example_v5 :
    encodeHeader { type := 5, nsp := [47, 97, 100, 109, 105, 110], id := some 12, att := 1 } =
      [53, 49, 45, 47, 97, 100, 109, 105, 110, 44, 49, 50] := by decide

/-- every well-formed header is read back exactly, whatever JSON follows it (non-event types) -/
theorem header_roundtrip (J : Oracle) (h : Header) (j : Bytes) (hw : h.Wf) (hj : JsonStart j)
    (hne : isBinaryType h.type = true → j ≠ []) (hev : isEventType h.type = false) :
    parseHeader J (encodeHeader h ++ j) = .ok { header := h.norm, name := none, token := none, buf := j } := by
  rw [parseHeader_encodeHeader J h j hw hj hne]
  simp [finishParse, Header.norm, hev]

/-- event types: the header is read back and the JSON array is scanned for its first string -/
theorem header_roundtrip_event (J : Oracle) (h : Header) (j tok name : Bytes) (hw : h.Wf) (hj : JsonStart j)
    (hne : j ≠ []) (hev : isEventType h.type = true) (hs : scanName j = some tok) (hJ : J tok = some [name]) :
    parseHeader J (encodeHeader h ++ j) =
      .ok { header := h.norm, name := some name, token := some tok, buf := j } := by
  rw [parseHeader_encodeHeader J h j hw hj (fun _ => hne)]
  simp [finishParse, Header.norm, hev, hs, hJ]

/-- the scan hands JSON exactly the first string of `["name", …]`, for every body made of JSON
    escape units — so also for names that contain quotes or end in a backslash -/
theorem name_scan_sound (body rest : Bytes) (hb : EscapeUnits body) :
    scanName (91 :: quote :: (body ++ quote :: rest)) = some (quote :: (body ++ [quote])) := by
  simpa using scanName_sound [91] body rest (by decide) hb

/-- placeholders are numbered 0..n-1 in walk order and there is one frame per binary leaf -/
theorem attachment_count (t : Tree) : (deconstruct t 0).2.1.length = countBin t ∧ (deconstruct t 0).2.2 = countBin t := by
  simpa using deconstruct_count t 0

/-- every attachment comes back byte-identical and in its place -/
theorem attachments_roundtrip (t : Tree) (hp : noPh t = true) :
    reconstruct (deconstruct t 0).1 (deconstruct t 0).2.1 = .ok t := by
  simpa using reconstruct_deconstruct t hp 0 [] [] rfl

/-- the decoder finishes a packet exactly after its header frame and `att` attachment frames -/
theorem frames_reassemble (J : Oracle) (maxAtt : Nat) (r : Pending) (fs : List Bytes)
    (hr : 0 < r.remaining) (hl : (fs.length : Int) = r.remaining) : addMany J maxAtt (some r) fs = none :=
  pending_finishes J maxAtt fs r hr hl

/-! non-vacuity -/
example : (⟨5, [47, 97], some 18446744073709551615, 3⟩ : Header).Wf := by
  refine ⟨by decide, Or.inr (Or.inr ⟨rfl, by decide⟩), ?_, by decide⟩
  intro n h; cases h; decide
example : JsonStart [91, 34, 97, 34, 93] := by
  intro c t e; cases e; decide
example : EscapeUnits [97, backslash, backslash] := .plain 97 _ (by decide) (by decide) (.esc backslash [] .nil)
example : noPh (.cons (.bin [1]) (.cons (.atom 0) (.cons (.bin [2, 3]) .nil))) = true := by decide

/-- the look-behind scan of the original code (D4): a name ending in a backslash never terminates -/
def Legacy.scanBody : Bytes → UInt8 → Option Bytes
  | [], _ => none
  | c :: cs, prev => if c = quote ∧ prev ≠ backslash then some [c] else (Legacy.scanBody cs c).map (c :: ·)
theorem Legacy.name_ending_in_backslash :
    Legacy.scanBody [97, backslash, backslash, quote, 93] quote = none ∧
    Sio.scanBody [97, backslash, backslash, quote, 93] false = some [97, backslash, backslash, quote] := by decide

end SioVerif.C09
