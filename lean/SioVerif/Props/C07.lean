import SioVerif.Lemmas.Upgrade
import SioVerif.Gen.Consts
/-
  C07 — A transport upgrade loses, duplicates and breaks nothing.

  * "every message either side sends before, during and after the upgrade is delivered exactly once"
        → `conservation_s2c`, `conservation_c2s` (in every reachable state — every traffic pattern,
          every interleaving of sends, poll cycles, POSTs, the swap on either side and deliveries —
          what was sent is a permutation of delivered ++ queued ++ in flight), `no_duplicates`,
          `quiescent_all_delivered`
  * "if the upgrade attempt fails or times out the connection keeps working on its original
     transport" → a failed attempt is a history without `swap` / `upgrade`: `failed_upgrade_harmless`
  * the first packet the server accepts on the new transport is UPGRADE → `upgrade_packet_first`
-/
namespace SioVerif.C07
open SioVerif SioVerif.Up

theorem somes_append (a b : List (Option Nat)) : somes (a ++ b) = somes a ++ somes b := by
  induction a with
  | nil => rfl
  | cons x t ih => cases x <;> simp [somes, ih]

structure UInv (s : St) : Prop where
  s2c : s.sSent.Perm (s.cGot ++ s.taken ++ s.s2cWs ++ s.pq)
  c2s : s.cSent.Perm (s.sGot ++ s.post ++ somes s.c2sWs)
  sOnWs_pq : s.sOnWs = true → s.pq = []
  cNotWs : s.cOnWs = false → s.c2sWs = []

theorem perm_move_end (a b c d : List Nat) (m : Nat) : (a ++ [m]).Perm (b ++ c ++ (d ++ [m])) ↔ a.Perm (b ++ c ++ d) := by
  rw [← List.append_assoc (b ++ c) d [m]]
  exact List.perm_append_right_iff [m]

theorem inv_step (s : St) (l : Lbl) (s' : St) (es : List Unit) (h : UInv s) (hs : step s l = some (s', es)) : UInv s' := by
  obtain ⟨h1, h2, h3, h4⟩ := h
  cases l with dsimp only [step] at hs
  | sSend m =>
    split at hs <;> cases hs
    · exact ⟨perm_send_mid m h1, h2, h3, h4⟩
    · rename_i hw
      exact ⟨(perm_move_end _ _ _ _ m).mpr h1, h2, fun hw' => absurd hw' hw, h4⟩
  | pollTake =>
    split at hs <;> cases hs
    rename_i hc
    -- no response is under way: the queue becomes the response
    rw [List.isEmpty_iff.mp (Bool.and_eq_true_iff.mp hc).1] at h1
    refine ⟨?_, h2, fun _ => rfl, h4⟩
    simp only [List.append_nil, List.append_assoc] at h1 ⊢
    exact h1.trans (List.perm_append_comm.append_left _)
  | pollDeliver =>
    split at hs <;> cases hs
    exact ⟨by simpa only [List.append_nil] using h1, h2, h3, h4⟩
  | upgrade =>
    (repeat' split at hs) <;> cases hs
    rename_i rest heq _
    refine ⟨by simpa only [List.append_nil, List.append_assoc] using h1, ?_, fun _ => rfl, fun hc => ?_⟩
    · rwa [heq] at h2
    · cases (h4 hc).symm.trans heq
  | s2cDeliver =>
    split at hs <;> cases hs
    rename_i m rest heq
    rw [heq] at h1
    exact ⟨h1.trans ((perm_deliver ..).append_right _), h2, h3, h4⟩
  | cSend m =>
    (repeat' split at hs) <;> cases hs
    · rename_i hw
      refine ⟨h1, ?_, h3, fun hc => nomatch hw.symm.trans hc⟩
      rw [somes_append]
      exact (perm_move_end _ _ _ _ m).mpr h2
    · -- no POST in flight: this message is the new one
      rename_i hp
      rw [List.isEmpty_iff.mp hp] at h2
      exact ⟨h1, perm_send_mid m h2, h3, h4⟩
  | postDeliver =>
    split at hs <;> cases hs
    exact ⟨h1, by simpa only [List.append_nil] using h2, h3, h4⟩
  | swap =>
    split at hs <;> cases hs
    exact ⟨h1, by simpa only [somes_append, somes, List.append_nil] using h2, h3, nofun⟩
  | c2sDeliver =>
    (repeat' split at hs) <;> cases hs
    rename_i m rest heq _
    rw [heq] at h2 h4
    exact ⟨h1, h2.trans (perm_deliver ..), h3, fun hc => nomatch h4 hc⟩

theorem inv_reachable : ∀ s, sys.Reachable s → UInv s :=
  Sys.inv_of_step sys UInv ⟨.refl _, .refl _, fun _ => rfl, fun _ => rfl⟩ inv_step

/-- server → client: nothing is lost and nothing appears from nowhere, in every reachable state -/
theorem conservation_s2c (s : St) (h : sys.Reachable s) : s.sSent.Perm (s.cGot ++ s.taken ++ s.s2cWs ++ s.pq) :=
  (inv_reachable s h).s2c

/-- client → server -/
theorem conservation_c2s (s : St) (h : sys.Reachable s) : s.cSent.Perm (s.sGot ++ s.post ++ somes s.c2sWs) :=
  (inv_reachable s h).c2s

/-- if the messages handed to Send are distinct, nothing is delivered twice -/
theorem no_duplicates (s : St) (h : sys.Reachable s) (hs : s.sSent.Nodup) (hc : s.cSent.Nodup) : s.cGot.Nodup ∧ s.sGot.Nodup := by
  have h1 := (conservation_s2c s h).nodup_iff.mp hs
  have h2 := (conservation_c2s s h).nodup_iff.mp hc
  simp only [List.append_assoc] at h1 h2
  exact ⟨(List.nodup_append.mp h1).1, (List.nodup_append.mp h2).1⟩

/-- when nothing is queued or in flight any more, everything sent has been delivered, exactly once -/
theorem quiescent_all_delivered (s : St) (h : sys.Reachable s)
    (hq : s.pq = [] ∧ s.taken = [] ∧ s.s2cWs = [] ∧ s.post = [] ∧ somes s.c2sWs = []) :
    s.sSent.Perm s.cGot ∧ s.cSent.Perm s.sGot := by
  obtain ⟨q1, q2, q3, q4, q5⟩ := hq
  have h1 := conservation_s2c s h
  have h2 := conservation_c2s s h
  simp only [q1, q2, q3, q4, q5, List.append_nil] at h1 h2
  exact ⟨h1, h2⟩

/-- a history in which the upgrade never completes (no `swap`, no `upgrade`) keeps both sides on
    long-polling; conservation (above) holds for it like for any other history -/
theorem failed_upgrade_harmless (ls : List Lbl) (hn : ∀ l ∈ ls, l ≠ .swap ∧ l ≠ .upgrade) : ∀ s s' es,
    s.sOnWs = false → s.cOnWs = false → sys.run s ls = some (s', es) → s'.sOnWs = false ∧ s'.cOnWs = false := by
  intro s s' es h1 h2 hr
  refine Sys.inv_run_on sys (fun l => l ≠ .swap ∧ l ≠ .upgrade) (fun s => s.sOnWs = false ∧ s.cOnWs = false)
    (fun s l s' es hl hi hs => ?_) ls hn s s' es ⟨h1, h2⟩ hr
  rw [(step_transports hs).1 hl.2, (step_transports hs).2 hl.1]
  exact hi

/-- the server switches only when UPGRADE is at the head of the new stream, and application
    messages on that stream are accepted only after the switch -/
theorem upgrade_packet_first (s : St) (s' : St) (es : List Unit) (hs : step s .c2sDeliver = some (s', es)) : s.sOnWs = true := by
  simp only [step] at hs
  (repeat' split at hs) <;> cases hs
  assumption

/-- the model's `send` steps put a packet on whichever transport is current at that step; the code does so because Send
    chooses the transport and enqueues under transportMu (read from the source; see C19 `send_chooses_and_enqueues_under_lock`) -/
theorem send_is_one_step : Gen.eioSendUnderTransportLock = true := by decide

/-- the client's swap (new transport current, old one discarded, UPGRADE sent) is one critical section of transportMu, so that
    UPGRADE is the first packet on the new transport (`upgrade_packet_first` is about the code as it is); and it runs off the new
    transport's reader goroutine, which must stay free to notice that the server gave the attempt up (D39) - read from the source -/
theorem client_swap_is_one_step : Gen.eioClientUpgradeSentUnderLock = true ∧ Gen.eioClientFinishUpgradeAsync = true := by decide

/-! non-vacuity: a burst queued exactly when the transports are swapped -/
example : (sys.run {} [.sSend 1, .sSend 2, .pollTake, .sSend 3, .cSend 7, .postDeliver, .swap, .cSend 8, .upgrade, .sSend 4,
    .pollDeliver, .s2cDeliver, .s2cDeliver, .c2sDeliver]).map (fun p => (p.1.cGot, p.1.sGot)) = some ([1, 2, 3, 4], [7, 8]) := by decide

end SioVerif.C07
