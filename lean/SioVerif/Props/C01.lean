import SioVerif.Inst
import SioVerif.Lemmas.EioCodec
import SioVerif.Lemmas.SioCodec
import SioVerif.Step
/-
  C01 — Every event emitted on a connected socket reaches the peer exactly once, intact.

  The end-to-end path is the composition of pieces that are proved separately:
  emit → Socket.IO frames (C09: header / name / placeholders) → one block on the send queue (C02)
  → Engine.IO MESSAGE packets → carriage (websocket: one message per packet; long-polling: *any*
  partition of the packet stream into non-empty payloads, attachments as base64; other Engine.IO
  packets interleaved anywhere) → Engine.IO decode (C11) → reassembly (C09/C10) → dispatch by
  namespace (C05) and event name → handler invocation.
  This file proves the composition of the carriage with the reassembly (`end_to_end_polling`, `end_to_end_websocket`): the sender's
  blocks, carried as any partition into long-polling payloads / as WebSocket messages, come out as exactly one packet per block, in
  order; and of the send queue with the reassembly (`emits_become_packets`): for every interleaving of emits by any number of
  goroutines with the sender's takes, the stream reassembles into one packet per emit; the pieces are:
  * `carriage_websocket`, `carriage_polling` : the stream of frames that leaves the send queue is
     the stream of frames that reaches the decoder, for every partition into poll responses / POSTs;
  * `control_packets_invisible` : PING/PONG/NOOP/… interleaved anywhere never reach the decoder;
  * `blocks_finish_in_order` : a stream made of well-formed blocks yields exactly one finished packet
     per block, in order, whatever they contain — nothing lost, duplicated or merged.
  Size side conditions (everything up to the announced limit is accepted) are C13's; the recovery
  variant and the `any`-typed / shared-value cases are recorded findings (D18, D33, D17).
-/
namespace SioVerif.C01
open SioVerif SioVerif.Eio

abbrev P : Params := Inst.eioParams

theorem codec_consistent : P.Consistent := by decide

/-- a Socket.IO frame as an Engine.IO MESSAGE packet (text: header frame; binary: attachment) -/
def framePacket (f : Bool × Bytes) : Packet := ⟨f.1, P.msgType, f.2⟩

theorem framePacket_wf (f : Bool × Bytes) : (framePacket f).Wf P := by
  refine ⟨?_, fun _ => rfl⟩
  show P.msgType ≤ P.typeMax
  decide

/-- websocket carriage: every frame arrives as it was sent -/
theorem carriage_websocket (frames : List (Bool × Bytes)) :
    frames.map (fun f => decode P f.1 (encode P true (framePacket f))) = frames.map (fun f => .ok (framePacket f)) := by
  apply List.map_congr_left
  intro f _
  have := decode_encode P codec_consistent (framePacket f) (framePacket_wf f) true
  simpa [framePacket] using this

/-- long-polling carriage: whatever the partition of the stream into non-empty payloads, every
    payload decodes to exactly the frames put into it (attachments travel as base64; text frames are
    JSON, which never contains the record separator) -/
theorem carriage_polling (batches : List (List (Bool × Bytes))) (hne : ∀ b ∈ batches, b ≠ [])
    (hclean : ∀ b ∈ batches, ∀ f ∈ b, f.1 = false → P.delim ∉ f.2) :
    ∀ b ∈ batches, decodePayloads P (encodePayloads P (b.map framePacket)) = .ok (b.map framePacket) := by
  intro b hb
  apply decodePayloads_encodePayloads P codec_consistent
  · intro h; exact hne b hb (List.map_eq_nil_iff.mp h)
  · intro p hp
    obtain ⟨f, hf, rfl⟩ := List.mem_map.mp hp
    exact ⟨framePacket_wf f, fun hbin => hclean b hb f hf hbin⟩

/-- so the concatenation of what the decoder sees is the stream that was sent, for every partition -/
theorem carriage_polling_stream (batches : List (List (Bool × Bytes))) :
    (batches.map (fun b => b.map framePacket)).flatten = batches.flatten.map framePacket :=
  List.map_flatten.symm

/-- only MESSAGE packets reach the Socket.IO decoder (`onEIOPacket`): control packets interleaved
    anywhere in the stream are invisible to it -/
def toDecoder (ps : List Packet) : List Packet := ps.filter (fun p => p.type == P.msgType)

theorem control_packets_invisible (a b : List Packet) (c : Packet) (hc : c.type ≠ P.msgType) :
    toDecoder (a ++ c :: b) = toDecoder (a ++ b) := by
  simp [toDecoder, hc]

/-! ### reassembly of a stream of blocks -/

open SioVerif.Sio in
/-- a block: a header frame the decoder accepts, followed by exactly the attachments it announces -/
def WfBlock (J : Oracle) (maxAtt : Nat) (b : List Bytes) : Prop :=
  ∃ f atts p, b = f :: atts ∧ parseHeader J f = .ok p ∧
    (maxAtt = 0 ∨ p.header.att ≤ maxAtt) ∧
    (atts.length = if isBinaryType p.header.type then p.header.att else 0)

open SioVerif.Sio in
/-- number of packets finished while feeding frames from a given decoder state, and the state after -/
def feed (J : Oracle) (maxAtt : Nat) : Option Pending → List Bytes → Option Pending × Nat
  | st, [] => (st, 0)
  | st, f :: fs =>
    let r := add J maxAtt st f
    let r' := feed J maxAtt r.1 fs
    (r'.1, (match r.2 with | .finish _ _ => 1 | _ => 0) + r'.2)

open SioVerif.Sio in
theorem feed_pending (J : Oracle) (maxAtt : Nat) (k : Nat) : ∀ (r : Pending) (fs : List Bytes),
    r.remaining = k + 1 → fs.length = k + 1 → feed J maxAtt (some r) fs = (none, 1) := by
  induction k with
  | zero =>
    intro r fs hr hl
    obtain ⟨f, rfl⟩ := List.length_eq_one_iff.mp hl
    simp [feed, add_pending_last hr]
  | succ k ih =>
    intro r fs hr hl
    obtain ⟨f, fs, rfl⟩ := List.exists_cons_of_length_eq_add_one hl
    -- `r.remaining = (k + 1) + 1`, which is more than 1
    have h1 : r.remaining ≠ 1 := hr ▸ Int.ne_of_gt (Int.lt_add_of_pos_left 1 (Int.natCast_pos.mpr k.succ_pos))
    have hr' : r.remaining - 1 = k + 1 := hr ▸ Int.add_sub_cancel _ 1
    simp [feed, add_pending_more h1, ih ⟨r.header, r.remaining - 1, r.nbuf + 1⟩ fs hr' (Nat.succ.inj hl)]

open SioVerif.Sio in
/-- a well-formed block fed to an idle decoder finishes exactly one packet and leaves it idle -/
theorem block_finishes_one (J : Oracle) (maxAtt : Nat) (b : List Bytes) (h : WfBlock J maxAtt b) :
    feed J maxAtt none b = (none, 1) := by
  obtain ⟨f, atts, p, rfl, hp, hmax, hlen⟩ := h
  have hadd := add_idle_ok hp hmax
  cases hb : isBinaryType p.header.type <;> rw [hb] at hlen
  · -- not a binary packet: no attachments
    cases List.eq_nil_of_length_eq_zero hlen
    simp [feed, hadd, hb]
  · cases ha : p.header.att with
    | zero =>
      cases List.eq_nil_of_length_eq_zero (hlen.trans ha)
      simp [feed, hadd, ha]
    | succ k =>
      have hfp := feed_pending J maxAtt k ⟨p.header, p.header.att, 1⟩ atts (congrArg Nat.cast ha) (hlen.trans ha)
      simp [feed, hadd, hb, show (p.header.att == 0) = false by simp [ha], hfp]

open SioVerif.Sio in
theorem feed_append (J : Oracle) (maxAtt : Nat) (a b : List Bytes) : ∀ st,
    feed J maxAtt st (a ++ b) =
      ((feed J maxAtt (feed J maxAtt st a).1 b).1, (feed J maxAtt st a).2 + (feed J maxAtt (feed J maxAtt st a).1 b).2) := by
  induction a with
  | nil => intro st; simp [feed]
  | cons f fs ih => intro st; simp only [List.cons_append, feed, ih, Nat.add_assoc]

open SioVerif.Sio in
/-- a stream made of well-formed blocks yields exactly one finished packet per block and ends idle:
    nothing lost, duplicated, merged or left pending -/
theorem blocks_finish_in_order (J : Oracle) (maxAtt : Nat) (blocks : List (List Bytes))
    (h : ∀ b ∈ blocks, WfBlock J maxAtt b) : feed J maxAtt none blocks.flatten = (none, blocks.length) := by
  induction blocks with
  | nil => rfl
  | cons b bs ih =>
    rw [List.flatten_cons, feed_append, block_finishes_one J maxAtt b (h b List.mem_cons_self),
      ih (fun x hx => h x (List.mem_cons_of_mem b hx)), List.length_cons, Nat.add_comm]

/-! ### composition: long-polling carriage followed by reassembly -/

/-- what the receiving Socket.IO decoder is fed when the sender's frames travel as the given long-polling payloads: each payload is
    encoded, decoded, and the data of its packets handed on (a payload that did not decode would hand on nothing) -/
def receivedOverPolling (batches : List (List (Bool × Bytes))) : List Bytes :=
  batches.flatMap fun b =>
    match decodePayloads P (encodePayloads P (b.map framePacket)) with
    | .ok ps => ps.map (·.data)
    | _ => []

theorem receivedOverPolling_eq (batches : List (List (Bool × Bytes))) (hne : ∀ b ∈ batches, b ≠ [])
    (hclean : ∀ b ∈ batches, ∀ f ∈ b, f.1 = false → P.delim ∉ f.2) :
    receivedOverPolling batches = batches.flatten.map (·.2) := by
  rw [receivedOverPolling, List.flatMap_def, List.map_flatten]
  congr 1
  apply List.map_congr_left
  intro b hb
  rw [carriage_polling batches hne hclean b hb]
  simp [framePacket]

/-- end to end over long-polling: the sender's blocks (header frame + the attachments it announces), cut into payloads in any way
    whatsoever (text frames free of the record separator, as JSON is), are decoded and reassembled into exactly one packet per block,
    in order, leaving the decoder idle - for every oracle of the JSON library, every block list, every partition -/
theorem end_to_end_polling (J : Sio.Oracle) (maxAtt : Nat) (blocks : List (List Bytes)) (batches : List (List (Bool × Bytes)))
    (hwf : ∀ b ∈ blocks, WfBlock J maxAtt b)
    (hpart : batches.flatten.map (·.2) = blocks.flatten)
    (hne : ∀ b ∈ batches, b ≠ [])
    (hclean : ∀ b ∈ batches, ∀ f ∈ b, f.1 = false → P.delim ∉ f.2) :
    feed J maxAtt none (receivedOverPolling batches) = (none, blocks.length) := by
  rw [receivedOverPolling_eq batches hne hclean, hpart]
  exact blocks_finish_in_order J maxAtt blocks hwf

theorem okData_map (frames : List (Bool × Bytes)) :
    (frames.map fun f => (Outcome.ok (framePacket f) : Outcome Err Packet)).filterMap
      (fun o => match o with | .ok p => some p.data | _ => none) = frames.map (·.2) := by
  simp [List.filterMap_map, Function.comp_def, framePacket]

/-- and over WebSocket (one message per frame) -/
theorem end_to_end_websocket (J : Sio.Oracle) (maxAtt : Nat) (blocks : List (List Bytes)) (frames : List (Bool × Bytes))
    (hwf : ∀ b ∈ blocks, WfBlock J maxAtt b) (hfr : frames.map (·.2) = blocks.flatten) :
    feed J maxAtt none ((frames.map fun f => decode P f.1 (encode P true (framePacket f))).filterMap
      (fun o => match o with | .ok p => some p.data | _ => none)) = (none, blocks.length) := by
  rw [carriage_websocket, okData_map, hfr]
  exact blocks_finish_in_order J maxAtt blocks hwf

/-! ### composition with the send queue: from interleaved emits to packets -/

/-- the send queue of C02 over byte frames: an emit appends all frames of its packet in one step, the sender takes everything queued -/
structure SendQ where
  queued : List Bytes := []
  sent : List Bytes := []
  emitted : List (List Bytes) := []   -- history: blocks in the order of their add steps

inductive SendOp where
  | emit (block : List Bytes)
  | take

def sendStep (s : SendQ) : SendOp → SendQ
  | .emit b => { s with queued := s.queued ++ b, emitted := s.emitted ++ [b] }
  | .take => { s with sent := s.sent ++ s.queued, queued := [] }

def sendRun (s : SendQ) (ops : List SendOp) : SendQ := ops.foldl sendStep s

theorem sendRun_stream (ops : List SendOp) : ∀ s : SendQ, s.sent ++ s.queued = s.emitted.flatten →
    (sendRun s ops).sent ++ (sendRun s ops).queued = (sendRun s ops).emitted.flatten := by
  refine foldl_inv sendStep (fun s => s.sent ++ s.queued = s.emitted.flatten) ?_ ops
  intro s op h
  cases op with
  | emit b => simp [sendStep, ← List.append_assoc, h]
  | take => simpa [sendStep] using h

theorem sendRun_emitted (ops : List SendOp) : ∀ s : SendQ,
    (sendRun s ops).emitted = s.emitted ++ ops.filterMap (fun o => match o with | .emit b => some b | .take => none) := by
  refine foldl_hist sendStep (·.emitted) _ ?_ ops
  intro s op
  cases op <;> simp [sendStep]

/-- from the emitting goroutines to the receiving application's decoder: for every interleaving of emits (any number of goroutines, each
    emit one well-formed block) with takes by the sender, what has gone out followed by what is still queued reassembles into exactly one
    packet per emit, in the order of the add steps - nothing lost, duplicated, merged or split -/
theorem emits_become_packets (J : Sio.Oracle) (maxAtt : Nat) (ops : List SendOp)
    (hwf : ∀ o ∈ ops, ∀ b, o = SendOp.emit b → WfBlock J maxAtt b) :
    feed J maxAtt none ((sendRun {} ops).sent ++ (sendRun {} ops).queued) =
      (none, (ops.filterMap (fun o => match o with | .emit b => some b | .take => none)).length) := by
  rw [sendRun_stream ops {} rfl, sendRun_emitted ops {}, List.nil_append]
  refine blocks_finish_in_order J maxAtt _ fun b hb => ?_
  obtain ⟨o, ho, hob⟩ := List.mem_filterMap.mp hb
  cases o with
  | emit b' => cases hob; exact hwf _ ho _ rfl
  | take => cases hob

/-! non-vacuity: BINARY_EVENT with one attachment followed by a text EVENT -/
example : feed (fun t => if t = [34, 97, 34] then some [[97]] else none) 0 none
    [[53, 49, 45, 91, 34, 97, 34, 93], [1, 2, 3], [50, 91, 34, 97, 34, 93]] = (none, 2) := by decide

end SioVerif.C01
