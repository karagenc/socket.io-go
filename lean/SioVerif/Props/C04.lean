import SioVerif.Lemmas.Rooms
/-
  C04 — A broadcast reaches exactly the sockets its rooms and exclusions select, once.

  * "room membership is exactly the net effect of the joins and leaves so far"
        → `join_adds_exactly`, `leave_removes_exactly`, `leave_all_removes_exactly`, `indexes_consistent`
  * "reaches exactly those sockets … in some room of T … and in no room of E — once each even when
     in several target rooms"                      → `broadcast_exact`, `broadcast_all_exact`
  * "a broadcast issued through a socket never reaches that socket" → `sender_excluded`
     (the exclusion is by the sender's id *room*: a socket that left its own id room is reached —
      `Legacy.self_delivery_after_leaving_own_room`, recorded finding D24)
  * "a disconnected socket belongs to no room"      → `disconnected_in_no_room`
-/
namespace SioVerif.C04
open SioVerif.Rooms

inductive Op where
  | join (sid : Nat) (rooms : List Nat)
  | leave (sid room : Nat)
  | leaveAll (sid : Nat)
deriving Repr

def stepOp (st : St) : Op → St
  | .join sid rs => addAll st sid rs
  | .leave sid r => delete st sid r
  | .leaveAll sid => deleteAll st sid

def run (st : St) (ops : List Op) : St := ops.foldl stepOp st

/-- after every history of joins and leaves the two indexes agree, no room is empty, no duplicates -/
theorem indexes_consistent (ops : List Op) : Rooms.Inv (run {} ops) := by
  refine foldl_inv stepOp _ (fun st op h => ?_) ops _ inv_init
  cases op with
  | join sid rs => exact addAll_inv st sid rs h
  | leave sid r => exact delete_inv st sid r h
  | leaveAll sid => exact deleteAll_inv st sid h

theorem join_adds_exactly (st : St) (sid : Nat) (rs : List Nat) (s r : Nat) :
    memberB (addAll st sid rs) s r = (memberB st s r || (s == sid && rs.contains r)) := addAll_memberB st sid rs s r

theorem leave_removes_exactly (st : St) (sid room s r : Nat) :
    memberB (delete st sid room) s r = (memberB st s r && !(s == sid && r == room)) := delete_memberB st sid room s r

theorem leave_all_removes_exactly (st : St) (sid s r : Nat) :
    memberB (deleteAll st sid) s r = (memberB st s r && !(s == sid)) := deleteAll_memberB st sid s r

theorem disconnected_in_no_room (st : St) (sid r : Nat) : memberB (deleteAll st sid) sid r = false := by
  simp [leave_all_removes_exactly]

theorem excepted_iff (st : St) (h : Rooms.Inv st) (E : List Nat) (s : Nat) :
    excepted st E s = true ↔ ∃ r ∈ E, memberB st s r = true := by
  simp only [excepted, List.any_eq_true, h.inverse]

/-- targets of a broadcast to rooms T (non-empty) except rooms E: no socket twice, and exactly the
    live sockets in some room of T and in no room of E -/
theorem broadcast_exact (st : St) (h : Rooms.Inv st) (T E : List Nat) (live : Nat → Bool) :
    (applyRooms st T E live).Nodup ∧
    ∀ s, s ∈ applyRooms st T E live ↔
      live s = true ∧ (∃ r ∈ T, memberB st s r = true) ∧ ∀ r ∈ E, memberB st s r = false := by
  refine ⟨applyRooms_nodup st E live, fun s => ?_⟩
  rw [mem_applyRooms, excepted_eq_false st E h]
  simp only [h.inverse]

/-- no target room: every live socket the adapter knows, except those in a room of E -/
theorem broadcast_all_exact (st : St) (h : Rooms.Inv st) (E : List Nat) (live : Nat → Bool) (univ : List Nat) (hu : univ.Nodup) :
    (applyAll st E live univ).Nodup ∧
    ∀ s, s ∈ applyAll st E live univ ↔
      s ∈ univ ∧ (st.sids s).isSome = true ∧ live s = true ∧ ∀ r ∈ E, memberB st s r = false := by
  refine ⟨hu.sublist List.filter_sublist, fun s => ?_⟩
  rw [mem_applyAll, excepted_eq_false st E h]

/-- a broadcast issued through a socket (which adds the sender's id room to the exclusions) never
    reaches that socket, as long as it is in its own id room -/
theorem sender_excluded (st : St) (h : Rooms.Inv st) (T E : List Nat) (live : Nat → Bool) (univ : List Nat)
    (s idRoom : Nat) (hm : memberB st s idRoom = true) :
    s ∉ apply st T (idRoom :: E) live univ := by
  intro hmem
  have hex := (excepted_iff st h (idRoom :: E) s).2 ⟨idRoom, List.mem_cons_self, hm⟩
  rw [excepted_of_mem_apply st _ live hmem] at hex
  cases hex

/-- D24: a socket that has left its own id room is reached by its own broadcast -/
theorem Legacy.self_delivery_after_leaving_own_room :
    let st := delete (addAll (addAll {} 1 [101]) 2 [102]) 1 101    -- socket 1 leaves its id room 101
    apply st [] [101] (fun _ => true) [1, 2] = [1, 2] := by
  decide

/-! non-vacuity -/
example : applyRooms (addAll (addAll (addAll {} 1 [10, 11]) 2 [11]) 3 [12]) [10, 11] [12] (fun _ => true) = [1, 2] := by decide

end SioVerif.C04
