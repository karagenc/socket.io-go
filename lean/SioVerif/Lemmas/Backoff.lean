import SioVerif.Model.Backoff
namespace SioVerif.Backoff

/-! ### the delay: `durationF` is `clamp` applied to the millisecond count -/

theorem Rounding.pos (R : Rounding) {a : Int} (h : 0 < a) : 0 < R.rn a :=
  Int.lt_of_lt_of_le (by decide) (R.exact 1 (by decide) (by decide) ▸ R.mono 1 a h)

/-- the last two steps of `durationF`, on the millisecond count `ms` -/
def clamp (rn : Int → Int) (dmax ms : Int) : Int :=
  if ms ≤ 0 then dmax else if min (rn ms) (rn dmax) > dmax then dmax else min (rn ms) (rn dmax)

/-- Whatever the count, the result is in (0, max]: a count that overflowed to ≤ 0 gives the maximum,
    a positive one stays positive under `rn`, and the clamp cuts what rounding may have added. -/
theorem clamp_range (R : Rounding) {dmax : Int} (h0 : 0 < dmax) (ms : Int) :
    0 < clamp R.rn dmax ms ∧ clamp R.rn dmax ms ≤ dmax := by
  unfold clamp
  split
  · exact ⟨h0, Int.le_refl _⟩
  · rename_i hms
    split
    · exact ⟨h0, Int.le_refl _⟩
    · rename_i hd
      exact ⟨Int.lt_min.mpr ⟨R.pos (Int.not_le.mp hms), R.pos h0⟩, Int.not_lt.mp hd⟩

/-- a positive count, and a maximum, that `float64` represents exactly: the minimum of the two -/
theorem clamp_eq_min (R : Rounding) {dmax ms : Int} (hms : 0 < ms ∧ ms ≤ 2 ^ 53) (hd : 0 < dmax ∧ dmax ≤ 2 ^ 53) :
    clamp R.rn dmax ms = min ms dmax := by
  rw [clamp, if_neg (Int.not_le.mpr hms.1), R.exact ms (by omega) hms.2, R.exact dmax (by omega) hd.2,
    if_neg (Int.not_lt.mpr (Int.min_le_right ..))]

/-- the count `p` with the jitter draw applied, in exact arithmetic -/
def jittered (p dev : Int) (jitter plus : Bool) : Int :=
  if jitter then (if plus then p + dev else p - dev) else p

theorem jittered_band (p : Int) {dev : Int} (h : 0 ≤ dev) (jitter plus : Bool) :
    p - dev ≤ jittered p dev jitter plus ∧ jittered p dev jitter plus ≤ p + dev := by
  unfold jittered
  omega

theorem pow2_pos (n : Nat) : 0 < pow2 n := Int.pow_pos (by decide)

/-! ### the reconnection loop -/

theorem reconnectLoop_limit {N k : Nat} (hN : 0 < N) (hk : N ≤ k) (script : List Bool) :
    reconnectLoop N k script = [.failed] := by
  unfold reconnectLoop
  exact if_pos ⟨hN, hk⟩

/-- one round while the limit is not reached -/
theorem reconnectLoop_cons {N k : Nat} (h : ¬(N > 0 ∧ k ≥ N)) (ok : Bool) (rest : List Bool) :
    reconnectLoop N k (ok :: rest) =
      .delay k :: .attempt (k + 1) :: if ok then [.reconnected (k + 1)] else .error :: reconnectLoop N (k + 1) rest := by
  rw [reconnectLoop, if_neg h]
  rfl

end SioVerif.Backoff
