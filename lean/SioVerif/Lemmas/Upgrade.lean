import SioVerif.Model.Upgrade
namespace SioVerif.Up

/-- each side's current transport changes at one label only: `upgrade` on the server, `swap` on the client -/
theorem step_transports {s s' : St} {l : Lbl} {es : List Unit} (h : step s l = some (s', es)) :
    (l ≠ .upgrade → s'.sOnWs = s.sOnWs) ∧ (l ≠ .swap → s'.cOnWs = s.cOnWs) := by
  cases l <;> dsimp only [step] at h <;> (repeat' split at h) <;> cases h <;> simp

/-- the head of the third block moves to the end of the first -/
theorem perm_deliver {α : Type} (p q r : List α) (m : α) : (p ++ q ++ m :: r).Perm (p ++ [m] ++ q ++ r) := by
  simp only [List.append_assoc]
  exact List.perm_middle.append_left p

/-- a message appended to the history and to the middle block -/
theorem perm_send_mid {α : Type} {a p q r : List α} (m : α) (h : a.Perm (p ++ q ++ r)) : (a ++ [m]).Perm (p ++ (q ++ [m]) ++ r) := by
  refine (h.append_right [m]).trans ?_
  simp only [List.append_assoc]
  exact (List.perm_append_comm.append_left q).append_left p

end SioVerif.Up
