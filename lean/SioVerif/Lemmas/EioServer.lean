import SioVerif.Model.EioServer
namespace SioVerif.EioSrv

/-- an invalid request is refused whatever protocol version is served: 503 by a closed server, otherwise
    403 or one of the protocol's error answers; in no case does it have an effect -/
theorem serve_invalid (pv : Nat) (closed : Bool) (r : Req) (h : r.invalid pv = true) :
    serve pv closed r = (⟨503, none⟩, .none) ∨ serve pv closed r = (⟨403, none⟩, .none) ∨
      ∃ c, serve pv closed r = err c := by
  obtain ⟨p3, m, e, t, sid, auth⟩ := r
  -- one copy of `serve`'s decision tree, in a hypothesis, instead of three in the goal
  generalize hres : serve pv closed _ = res
  unfold serve at hres
  -- `serve`'s own order: closed, version, session id, then method / authorisation / transport
  split at hres
  · exact .inl hres.symm
  split at hres
  · exact .inr (.inr ⟨_, hres.symm⟩)
  rename_i hv
  simp only [Req.invalid, hv, Bool.false_or] at h
  cases sid with
  | unknown => exact .inr (.inr ⟨_, hres.symm⟩)
  | live cur =>
    have ht : (t ≠ cur ∧ t ≠ .websocket) ∧ t ≠ .webtransport := by simpa using h
    simp only [ht.1.1, ↓reduceIte] at hres
    split at hres
    · exact absurd rfl ht.1.2
    · exact absurd rfl ht.2
    · exact .inr (.inr ⟨_, hres.symm⟩)
  | absent =>
    simp only at hres
    split at hres
    · exact .inr (.inr ⟨_, hres.symm⟩)
    split at hres
    · exact .inr (.inl hres.symm)
    rename_i hm _
    have ht : t ≠ .polling ∧ t ≠ .websocket := by simpa [hm] using h
    split at hres
    · exact absurd rfl ht.1
    · exact absurd rfl ht.2
    · exact .inr (.inr ⟨_, hres.symm⟩)

/-- the three sequence bytes of a session id determine the sequence number modulo 2^24 -/
theorem seq_mod_eq_bytes (n : Nat) : n % 16777216 = n / 65536 % 256 * 65536 + n / 256 % 256 * 256 + n % 256 := by
  omega

end SioVerif.EioSrv
