import SioVerif.Model.EioCodec
import SioVerif.Lemmas.Base64
import SioVerif.Lemmas.Basic
namespace SioVerif.Eio

/-- decidable consistency of the codec constants: type characters, the base64 prefix and the
    record separator must be pairwise distinguishable -/
def Params.Consistent (P : Params) : Prop :=
  P.charBase + P.typeMax < 256 ∧
  (P.b64Prefix.toNat < P.charBase ∨ P.b64Prefix.toNat > P.charBase + P.typeMax) ∧
  P.delim ≠ P.b64Prefix ∧
  (P.delim.toNat < P.charBase ∨ P.delim.toNat > P.charBase + P.typeMax) ∧
  B64.decChar P.delim = none ∧ P.delim ≠ B64.pad ∧
  P.msgType ≤ P.typeMax

instance (P : Params) : Decidable P.Consistent := by unfold Params.Consistent; exact inferInstance

variable (P : Params)

theorem typeChar_toNat (hc : P.Consistent) (t : Nat) (ht : t ≤ P.typeMax) :
    (typeChar P t).toNat = t + P.charBase :=
  UInt8.toNat_ofNat_of_lt' (Nat.lt_of_le_of_lt (Nat.add_le_add_right ht _) (Nat.add_comm .. ▸ hc.1))

/-- a type character passes `decode`'s range test -/
theorem typeChar_range (hc : P.Consistent) (t : Nat) (ht : t ≤ P.typeMax) :
    ¬ ((typeChar P t).toNat < P.charBase ∨ (typeChar P t).toNat > P.charBase + P.typeMax) := by
  rw [typeChar_toNat P hc t ht, Nat.add_comm]
  exact not_or.mpr ⟨Nat.not_lt.mpr (Nat.le_add_right ..), Nat.not_lt.mpr (Nat.add_le_add_left ht _)⟩

/-- so it differs from the two bytes `Consistent` places outside that range -/
theorem typeChar_ne (hc : P.Consistent) (t : Nat) (ht : t ≤ P.typeMax) {c : UInt8}
    (h : c.toNat < P.charBase ∨ c.toNat > P.charBase + P.typeMax) : typeChar P t ≠ c :=
  fun e => typeChar_range P hc t ht (e ▸ h)

theorem encode_length (sb : Bool) (p : Packet) :
    (encode P sb p).length = encodedLen sb p := by
  cases hb : p.isBinary <;> cases sb <;> simp [encode, encodedLen, hb, B64.enc_length, Nat.add_comm]

/-- every Engine.IO packet survives every framing the library uses -/
theorem decode_encode (hc : P.Consistent) (p : Packet) (hw : p.Wf P) (sb : Bool) :
    decode P (sb && p.isBinary) (encode P sb p) = .ok p := by
  obtain ⟨bin, t, d⟩ := p
  cases bin
  · simp only [encode, decode, Bool.and_false, Bool.false_eq_true, ↓reduceIte,
      typeChar_ne P hc t hw.1 hc.2.1, typeChar_range P hc t hw.1]
    rw [typeChar_toNat P hc t hw.1, Nat.add_sub_cancel]
  · obtain rfl : t = P.msgType := hw.2 rfl
    cases sb <;> simp [encode, decode, B64.dec_enc]

theorem payloads_length (ps : List Packet) :
    (encodePayloads P ps).length = encodedPayloadsLen ps := by
  induction ps using encodePayloads.induct with
  | case1 => rfl
  | case2 p => exact encode_length P false p
  | case3 p q rest ih =>
    rw [encodePayloads, encodedPayloadsLen, List.length_append, List.length_cons, ih, encode_length,
      Nat.add_assoc, Nat.add_comm 1]

/-! ### splitByte -/

theorem split1_append (d : UInt8) (s t : Bytes) (h : d ∉ s) :
    split1 d (s ++ t) = (s ++ (split1 d t).1, (split1 d t).2) := by
  induction s with
  | nil => rfl
  | cons c s ih =>
    simp only [List.mem_cons, not_or] at h
    simp [split1, Ne.symm h.1, ih h.2]

theorem splitByte_no_delim (d : UInt8) (s : Bytes) (h : d ∉ s) : splitByte d s = [s] := by
  simpa [splitByte, split1, Prod.ext_iff] using split1_append d s [] h

theorem splitByte_append (d : UInt8) (s rest : Bytes) (h : d ∉ s) :
    splitByte d (s ++ d :: rest) = s :: splitByte d rest := by
  simp [splitByte, split1_append d s _ h, split1]

/-- the encoded form of a packet contains no record separator, provided a text packet's data has none -/
theorem delim_not_mem_encode (hc : P.Consistent) (p : Packet) (hw : p.Wf P)
    (hd : p.isBinary = false → P.delim ∉ p.data) : P.delim ∉ encode P false p := by
  cases hb : p.isBinary
  · simpa [encode, hb] using ⟨(typeChar_ne P hc p.type hw.1 hc.2.2.2.1).symm, hd hb⟩
  · simpa [encode, hb] using ⟨hc.2.2.1, B64.enc_not_mem _ _ hc.2.2.2.2.1 hc.2.2.2.2.2.1⟩

theorem decodePayloads_encodePayloads (hc : P.Consistent) (ps : List Packet)
    (hne : ps ≠ [])
    (hw : ∀ p ∈ ps, p.Wf P ∧ (p.isBinary = false → P.delim ∉ p.data)) :
    decodePayloads P (encodePayloads P ps) = .ok ps := by
  induction ps with
  | nil => exact absurd rfl hne
  | cons p rest ih =>
    have ⟨hwf, hd⟩ := hw p List.mem_cons_self
    have hnd := delim_not_mem_encode P hc p hwf hd
    have hde : decode P false (encode P false p) = .ok p := decode_encode P hc p hwf false
    cases rest with
    | nil => simp [decodePayloads, encodePayloads, splitByte_no_delim _ _ hnd, decodeAll, hde]
    | cons q rest =>
      have ih' := ih (List.cons_ne_nil q rest) fun r hr => hw r (List.mem_cons_of_mem p hr)
      simp only [decodePayloads] at ih' ⊢
      simp only [encodePayloads, splitByte_append _ _ _ hnd, decodeAll, hde, ih']

theorem decode_no_panic (bf : Bool) (b : Bytes) : (decode P bf b).isPanic = false := by
  let Q (o : Outcome Err Packet) := o.isPanic = false
  unfold decode
  refine ite_ind Q rfl ?_
  cases b with
  | nil => rfl
  | cons c rest =>
    refine ite_ind Q ?_ (ite_ind Q rfl rfl)
    cases B64.dec rest <;> rfl

theorem decodeAll_no_panic (ss : List Bytes) : (decodeAll P ss).isPanic = false := by
  induction ss with
  | nil => rfl
  | cons s rest ih =>
    have h := decode_no_panic P false s
    simp only [decodeAll]
    generalize decode P false s = o at h
    generalize decodeAll P rest = r at ih
    cases o with
    | ok p =>
      cases r with
      | panic w => exact ih
      | _ => rfl
    | error e => rfl
    | panic w => exact h

end SioVerif.Eio
