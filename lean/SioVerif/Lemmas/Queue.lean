import SioVerif.Model.Queue
import SioVerif.Lemmas.Basic
namespace SioVerif.Q

theorem aboutToGet_iff {x : CPc} : x.aboutToGet = true ↔ x = .checking ∨ x = .timedOut := by
  cases x <;> simp [CPc.aboutToGet]

/-- changing a consumer that is not about to `get` keeps every about-to-get witness -/
theorem keep_witness {l : List CPc} {c : Nat} {z : CPc} (x : CPc) (hz : l[c]? = some z) (hzn : z.aboutToGet = false)
    (h : ∃ y ∈ l, y.aboutToGet = true) : ∃ y ∈ l.set c x, y.aboutToGet = true := by
  obtain ⟨y, hy, hya⟩ := h
  refine ⟨y, mem_set_of_ne x hy fun e => ?_, hya⟩
  cases hz.symm.trans e
  exact Bool.false_ne_true (hzn.symm.trans hya)

theorem Inv.of_empty {s : St} (h : s.packets = []) : Inv s := fun hne => absurd h hne

theorem Inv.of_getter {s : St} {x : CPc} (hx : x ∈ s.consumers) (ha : x.aboutToGet = true) : Inv s :=
  fun _ => .inr (.inr ⟨x, hx, ha⟩)

theorem doSignal_inv {cap : Nat} (hcap : 1 ≤ cap) (s : St) : Inv (doSignal cap s) := by
  intro _
  left
  simp [doSignal, hcap]

theorem doSignal_packets (cap : Nat) (s : St) : (doSignal cap s).packets = s.packets := by
  unfold doSignal
  split
  · rfl
  · split <;> rfl

/-- one step preserves the invariant when the signal channel is buffered: a signal leaves the token, a consumer that starts,
    wakes up or times out is about to `get`, and a `get` leaves the queue empty -/
theorem step_inv {cap : Nat} (hcap : 1 ≤ cap) {s s' : St} {l : Lbl} {es : List Ev}
    (hi : Inv s) (hs : step cap s l = some (s', es)) : Inv s' := by
  cases l with dsimp only [step] at hs
  | add ps | signal =>
    (repeat' split at hs) <;> cases hs
    exact doSignal_inv hcap _
  | append ps =>
    cases hs
    exact fun _ => .inr (.inl (Nat.succ_pos _))
  | start c | wake c | timeout c =>
    (repeat' split at hs) <;> cases hs
    exact .of_getter (mem_set_of_getElem? (by assumption) _) rfl
  | get c =>
    (repeat' split at hs) <;> cases hs
    · rename_i hemp
      exact .of_empty (List.isEmpty_iff.mp hemp)
    · exact .of_empty rfl
  | enter c =>
    split at hs <;> cases hs
    rename_i hz
    exact fun hne => (hi hne).imp_right (.imp_right (keep_witness _ hz rfl))
  | finalGet c =>
    split at hs <;> cases hs
    exact .of_empty rfl

theorem inv_reachable {cap : Nat} (hcap : 1 ≤ cap) (n : Nat) : ∀ s, (sys cap n).Reachable s → Inv s :=
  Sys.inv_of_step (sys cap n) Inv (.of_empty rfl) fun _ _ _ _ => step_inv hcap

theorem inv_not_stuck (s : St) (h : Inv s) : ¬ Stuck s := by
  intro ⟨hp, ht, hps, _, hno⟩
  rcases h hp with h1 | h2 | ⟨c, hc, hca⟩
  · rw [ht] at h1; cases h1
  · exact Nat.ne_of_gt h2 hps
  · rw [hno c hc] at hca; cases hca

/-- a poll never answers empty while packets are queued: whatever a consumer returns, the queue is
    empty right after it (it took everything), so an empty answer means nothing was queued -/
theorem returned_takes_all {cap : Nat} {s s' : St} {l : Lbl} {es : List Ev} {c : Nat} {ps : List Nat}
    (hs : step cap s l = some (s', es)) (he : Ev.returned c ps ∈ es) : ps = s.packets ∧ s'.packets = [] := by
  cases l with dsimp only [step] at hs
  | get c' =>
    (repeat' split at hs) <;> cases hs
    · cases he
    · exact ⟨(Ev.returned.inj (List.mem_singleton.mp he)).2, rfl⟩
  | finalGet c' =>
    split at hs <;> cases hs
    exact ⟨(Ev.returned.inj (List.mem_singleton.mp he)).2, rfl⟩
  | _ =>
    -- every other label emits nothing
    (repeat' split at hs) <;> cases hs <;> cases he

end SioVerif.Q
