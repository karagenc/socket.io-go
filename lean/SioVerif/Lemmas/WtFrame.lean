import SioVerif.Model.WtFrame
import SioVerif.Lemmas.EioCodec
namespace SioVerif.Wt
open SioVerif.Eio

@[simp] theorem beBytes_length (k n : Nat) : (beBytes k n).length = k := by
  induction k with
  | zero => rfl
  | succ k ih => simp [beBytes, ih]

theorem beVal_beBytes (k n : Nat) : beVal (beBytes k n) = n % 256 ^ k := by
  induction k with
  | zero => exact (Nat.mod_one n).symm
  | succ k ih =>
    rw [beBytes, beVal, beBytes_length, ih, UInt8.toNat_ofNat_of_lt' (Nat.mod_lt _ (by decide)),
      Nat.pow_succ, Nat.mod_mul, Nat.mul_comm, Nat.add_comm]

theorem beVal_beBytes_of_lt {k n : Nat} (h : n < 256 ^ k) : beVal (beBytes k n) = n := by
  rw [beVal_beBytes, Nat.mod_eq_of_lt h]

/-- decidable consistency of the framing constants: what `send` writes is what `nextPacket` tests -/
def WtParams.Consistent (W : WtParams) : Prop :=
  W.small ≤ W.rdSmall ∧ W.rdSmall ≤ 128 ∧
  W.mid ≤ 65536 ∧
  W.mark16 = W.rdMark16 ∧ W.mark16 < 128 ∧ W.rdSmall ≤ W.mark16 ∧
  W.mark64 < 128 ∧ W.rdSmall ≤ W.mark64 ∧ W.mark64 ≠ W.rdMark16 ∧
  W.readWidth64 = 64

instance (W : WtParams) : Decidable W.Consistent := by unfold WtParams.Consistent; exact inferInstance

/-- the first header byte gives back the 7-bit value and the binary flag -/
theorem orFlag_toNat (n : Nat) (bin : Bool) (h : n < 128) :
    (orFlag n bin).toNat % 128 = n ∧ decide ((orFlag n bin).toNat ≥ 128) = bin := by
  have h256 : n % 256 = n := Nat.mod_eq_of_lt (Nat.lt_trans h (by decide))
  cases bin <;>
    simp [orFlag, h256, h, Nat.mod_eq_of_lt h, Nat.mod_eq_of_lt (Nat.add_lt_add_right h 128)]

theorem toInt_small (n : Nat) (h : n < 2 ^ 63) : toInt n = n := by simp [toInt, h]

variable (P : Params) (W : WtParams)

/-- what `send` puts in front of a frame of length `n` is read back as `n` and the flag, whatever follows
    (all three prefix forms) -/
theorem next_header (hW : W.Consistent) (lim : Option Nat) (n : Nat)
    (bin : Bool) (inp : Bytes) (hn : n < 2 ^ 63) :
    next P W lim (header W n bin ++ inp) = readPayload P W lim bin n inp := by
  obtain ⟨h1, h2, h3, h4, h5, h6, h7, h8, h9, h10⟩ := hW
  unfold header
  split
  · rename_i hs
    have hr : n < W.rdSmall := Nat.lt_of_lt_of_le hs h1
    have h128 : n < 128 := Nat.lt_of_lt_of_le hr h2
    simp [next, orFlag_toNat, h128, hr]
  · split
    · rename_i hm
      have : n < 256 ^ 2 := Nat.lt_of_lt_of_le hm h3
      rw [h4] at h5 h6 ⊢
      simp [next, orFlag_toNat, h5, Nat.not_lt.mpr h6, beVal_beBytes_of_lt this, List.take_left',
        List.drop_left', Nat.not_lt.mpr (Nat.le_add_right _ _)]
    · have : n < 256 ^ 8 := Nat.lt_trans hn (by decide)
      simp [next, orFlag_toNat, h7, Nat.not_lt.mpr h8, h9, h10, beVal_beBytes_of_lt this, List.take_left',
        List.drop_left', toInt_small n hn, Nat.not_lt.mpr (Nat.le_add_right _ _)]

theorem readPayload_exact (lim : Option Nat) (bin : Bool) (body rest : Bytes)
    (hl : ∀ l, (if W.checksLimit then lim else none) = some l → l > 0 → body.length ≤ l) :
    readPayload P W lim bin (body.length : Int) (body ++ rest) =
      ⟨(decode P bin body).bind (fun p => .ok (p, rest)), body.length⟩ := by
  simp only [readPayload, Int.not_lt.mpr (Int.natCast_nonneg _), ↓reduceIte, Int.toNat_natCast,
    List.length_append, Nat.not_lt.mpr (Nat.le_add_right _ _), List.take_left, List.drop_left]
  split
  · rename_i l heq
    rw [if_neg (fun h => Nat.not_le.mpr h.2 (hl l heq h.1))]
  · rfl

/-- WebTransport framing round-trips for every frame length below 2^63 (all three prefix forms) -/
theorem next_send (hc : P.Consistent) (hW : W.Consistent)
    (lim : Option Nat) (p : Packet) (rest : Bytes) (hw : p.Wf P)
    (hlen : encodedLen true p < 2 ^ 63)
    (hl : ∀ l, (if W.checksLimit then lim else none) = some l → l > 0 → encodedLen true p ≤ l) :
    next P W lim (send P W p ++ rest) = ⟨.ok (p, rest), encodedLen true p⟩ := by
  rw [send, List.append_assoc, next_header P W hW lim _ _ _ hlen]
  rw [← encode_length P true p] at hl ⊢
  have hd : decode P p.isBinary (encode P true p) = .ok p := decode_encode P hc p hw true
  rw [readPayload_exact P W lim _ _ _ hl, hd]
  rfl

/-- the buffer allocated for a frame never exceeds a positive limit, whatever the header says -/
theorem readPayload_alloc (l : Nat) (bin : Bool) (len : Int) (inp : Bytes)
    (hck : W.checksLimit = true) (hl : l > 0) :
    (readPayload P W (some l) bin len inp).allocated ≤ l := by
  let Q (r : NextResult) := r.allocated ≤ l
  simp only [readPayload, hck, ↓reduceIte]
  refine ite_ind Q (ite_ind Q (Nat.zero_le l) (Nat.zero_le l)) ?_
  by_cases h : l > 0 ∧ len.toNat > l
  · rw [if_pos h]
    exact Nat.zero_le l
  · rw [if_neg h]
    have hn : len.toNat ≤ l := Nat.not_lt.mp fun h' => h ⟨hl, h'⟩
    split
    · rename_i h2
      exact Nat.le_trans (Nat.le_of_lt h2) hn
    · exact hn

/-- Every branch of `next` ends in `eof` or in `readPayload`; a length it passes on can be negative
    only if the eight-byte field is read at full width. -/
theorem next_ind (lim : Option Nat) (Q : NextResult → Prop)
    (heof : Q ⟨.error .eof, 0⟩)
    (hrp : ∀ bin len inp', (W.readWidth64 = 64 ∨ 0 ≤ len) → Q (readPayload P W lim bin len inp'))
    (inp : Bytes) : Q (next P W lim inp) := by
  have hnat (bin) (n : Nat) (inp') := hrp bin n inp' (.inr (Int.natCast_nonneg n))
  cases inp with
  | nil => exact heof
  | cons f rest =>
    refine ite_ind Q (hnat ..) (ite_ind Q (ite_ind Q heof (hnat ..)) (ite_ind Q heof (hrp _ _ _ ?_)))
    split
    · exact .inl ‹_›
    · exact .inr (Int.natCast_nonneg _)

theorem next_alloc (l : Nat) (inp : Bytes)
    (hck : W.checksLimit = true) (hl : l > 0) :
    (next P W (some l) inp).allocated ≤ l :=
  next_ind P W (some l) (·.allocated ≤ l) (Nat.zero_le l)
    (fun bin len inp' _ => readPayload_alloc P W l bin len inp' hck hl) inp

theorem readPayload_no_panic (lim : Option Nat) (bin : Bool) (len : Int)
    (inp : Bytes) (h : W.rejectsNegative = true ∨ 0 ≤ len) :
    (readPayload P W lim bin len inp).out.isPanic = false := by
  simp only [readPayload]
  by_cases h0 : len < 0
  · rw [if_pos h0, if_pos (h.resolve_right (Int.not_le.mpr h0))]
    rfl
  · rw [if_neg h0]
    -- every other branch is a constant error or a decode
    (repeat' split) <;> first | rfl | exact Outcome.isPanic_bind _ _ (decode_no_panic P bin _) (fun _ => rfl)

theorem toInt_nonneg_of_lt (n : Nat) : 0 ≤ (n : Int) := by omega

/-- `nextPacket` never panics, whatever bytes arrive -/
theorem next_no_panic (lim : Option Nat) (inp : Bytes)
    (h : W.rejectsNegative = true ∨ W.readWidth64 ≠ 64) :
    (next P W lim inp).out.isPanic = false :=
  next_ind P W lim (·.out.isPanic = false) rfl
    (fun bin len inp' hlen => readPayload_no_panic P W lim bin len inp' (h.imp_right hlen.resolve_left)) inp

end SioVerif.Wt
