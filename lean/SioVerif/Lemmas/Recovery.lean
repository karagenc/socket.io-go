import SioVerif.Model.Recovery
namespace SioVerif.Rec

/-- no operation makes a hole: broadcast appends to both, the cleaner drops a prefix of the log -/
theorem stepOp_suffix (W : Nat) (s : St) (op : Op) (h : ∃ pre, s.hist = pre ++ s.log) :
    ∃ pre, (stepOp W s op).hist = pre ++ (stepOp W s op).log := by
  obtain ⟨pre, hp⟩ := h
  cases op with
  | broadcast p => exact ⟨pre, by rw [stepOp, broadcast, hp, List.append_assoc]⟩
  | clean now =>
    exact ⟨pre ++ s.log.takeWhile (pkExpired W now), by
      rw [stepOp, clean, List.append_assoc, List.takeWhile_append_dropWhile, hp]⟩
  | persist x => exact ⟨pre, hp⟩

end SioVerif.Rec
