import SioVerif.Model.HandlerStore
namespace SioVerif.HS

theorem count_filter_of_not_mem {l : List Reg} {r : Reg} (h : r ∉ l) (p : Reg → Bool) : (l.filter p).count r = 0 :=
  List.count_eq_zero.mpr fun hm => h (List.mem_filter.mp hm).1

/-- One step hands out, and leaves in `once_`, together no more copies of `r` than `once_` held, plus
    one if the step registers `r` with Once — as long as `r` is in neither list that outlives a `fire`. -/
theorem step_once_count (s : Store) (op : Op) (r : Reg) (h1 : r ∉ s.on_) (h2 : r ∉ s.subs) :
    (step s op).2.count r + (step s op).1.once_.count r ≤ s.once_.count r + if op = .once r then 1 else 0 := by
  cases op with
  | once r' =>
    by_cases h : r' = r <;> simp [step, h]
  | off ev hs => exact Nat.zero_add _ ▸ Nat.le_add_right_of_le (List.filter_sublist.count_le r)
  | offAll => exact Nat.zero_le _
  | fire ev =>
    simp only [step, List.count_append, count_filter_of_not_mem h1, count_filter_of_not_mem h2]
    -- what is handed out and what stays split `once_` (`a != b` is `!(a == b)` by definition)
    exact Nat.zero_add _ ▸ Nat.le_add_right_of_le
      (Nat.le_of_eq (List.countP_eq_countP_filter_add s.once_ (· == r) (·.ev == ev)).symm)
  | _ => simp [step]

/-- `r` stays out of `on_` and `subs` under every operation but its own registration there -/
theorem step_keeps_absent (s : Store) (op : Op) (r : Reg) (hon : .on r ≠ op) (hsub : .sub r ≠ op)
    (h1 : r ∉ s.on_) (h2 : r ∉ s.subs) : r ∉ (step s op).1.on_ ∧ r ∉ (step s op).1.subs := by
  cases op <;> simp_all [step]

end SioVerif.HS
