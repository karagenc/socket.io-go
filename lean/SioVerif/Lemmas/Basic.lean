import SioVerif.Basic
/-
  Facts that several models need: conditionals, outcomes of transcribed Go functions, and lists used
  as sets (no duplicates) or as indexed tables (`set`).
-/
namespace SioVerif

/-- what holds of both branches holds of the conditional -/
theorem ite_ind {α : Sort u} {c : Prop} [Decidable c] {a b : α} (Q : α → Prop) (ha : Q a) (hb : Q b) :
    Q (if c then a else b) := by
  split <;> assumption

/-- a `bind` panics only if one of its two parts does -/
theorem Outcome.isPanic_bind {ε α β : Type} (o : Outcome ε α) (f : α → Outcome ε β)
    (ho : o.isPanic = false) (hf : ∀ a, (f a).isPanic = false) : (o.bind f).isPanic = false := by
  cases o with
  | ok a => exact hf a
  | error e => rfl
  | panic w => exact ho

theorem nodup_snoc {α : Type} {x : α} {l : List α} (h : l.Nodup) (hx : x ∉ l) : (l ++ [x]).Nodup :=
  (List.perm_append_singleton x l).nodup_iff.2 (List.nodup_cons.2 ⟨hx, h⟩)

theorem mem_set_of_getElem? {α : Type} {l : List α} {i : Nat} {z : α} (h : l[i]? = some z) (x : α) : x ∈ l.set i x :=
  List.mem_set (List.getElem?_eq_some_iff.mp h).1 x

/-- overwriting position `i` keeps every element that is not the one stored there -/
theorem mem_set_of_ne {α : Type} {l : List α} {i : Nat} {x : α} (y : α) (hx : x ∈ l) (hne : l[i]? ≠ some x) :
    x ∈ l.set i y := by
  obtain ⟨j, hj⟩ := List.getElem?_of_mem hx
  have hij : i ≠ j := fun e => hne (e ▸ hj)
  exact List.mem_of_getElem? ((List.getElem?_set_ne hij).trans hj)

end SioVerif
