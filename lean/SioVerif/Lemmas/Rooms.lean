import SioVerif.Model.Rooms
import SioVerif.Step
import SioVerif.Lemmas.Basic
/-
  Every operation of the adapter acts on each of the two indexes as a `set` or an `update` of one
  key. Membership after the operation and the preservation of a property of all lists are therefore
  proved once for `Map` and instantiated for `sids` and `rooms`.
-/
namespace SioVerif.Rooms

/-! ### list-as-set helpers -/

theorem mem_ins {x y : Nat} {l : List Nat} : y ∈ ins x l ↔ y ∈ l ∨ y = x := by
  unfold ins
  split
  · rename_i h
    rw [List.contains_iff_mem] at h
    exact ⟨Or.inl, fun h' => h'.elim id (· ▸ h)⟩
  · rw [List.mem_append, List.mem_singleton]

theorem ins_contains (x y : Nat) (l : List Nat) : (ins x l).contains y = (l.contains y || y == x) := by
  rw [Bool.eq_iff_iff, Bool.or_eq_true, List.contains_iff_mem, List.contains_iff_mem, beq_iff_eq, mem_ins]

theorem ins_ne_nil (x : Nat) (l : List Nat) : ins x l ≠ [] :=
  List.ne_nil_of_mem (mem_ins.2 (Or.inr rfl))

theorem ins_nodup (x : Nat) (l : List Nat) (h : l.Nodup) : (ins x l).Nodup := by
  unfold ins
  split
  · exact h
  · rename_i hx
    rw [List.contains_iff_mem] at hx
    exact nodup_snoc h hx

theorem filter_ne_contains (x y : Nat) (l : List Nat) : (l.filter (· != x)).contains y = (l.contains y && y != x) := by
  simp only [List.contains_eq_mem, List.mem_filter, Bool.decide_and, Bool.decide_eq_true]

/-! ### the maps -/

namespace Map

/-- `x` is in the list bound to `k`; `memberB` and `inRoomB` are this test on the two indexes -/
def has (m : Map) (k x : Nat) : Bool := ((m k).getD []).contains x

/-- every list in the map has the property -/
def All (m : Map) (P : List Nat → Prop) : Prop := ∀ k l, m k = some l → P l

/-- replace the list bound to `k`, if there is one: what the leave operations do to an index -/
def update (m : Map) (k : Nat) (f : List Nat → Option (List Nat)) : Map :=
  match m k with
  | some l => m.set k (f l)
  | none => m

end Map

@[simp] theorem get_empty (k : Nat) : (({} : Map) : Nat → Option (List Nat)) k = none := rfl

section
variable {P : List Nat → Prop} (m : Map) (k : Nat) (v : Option (List Nat)) (f : List Nat → Option (List Nat))

/- The lookups are stated with `bif x == k`, so that one case split on `x == k` also decides the
   Boolean tests of the membership equations below. -/

theorem get_set (x : Nat) : m.set k v x = bif x == k then v else m x := by
  rw [Bool.beq_comm, Map.set, Map.get, List.find?_cons]
  cases k == x <;> rfl

theorem get_update (x : Nat) : m.update k f x = bif x == k then (m k).bind f else m x := by
  unfold Map.update
  cases h : m k with
  | none =>
    cases hx : x == k
    · rfl
    · rw [eq_of_beq hx, h]
      rfl
  | some l => exact get_set ..

theorem has_set_ins (x k' y : Nat) :
    (m.set k (some (ins x ((m k).getD [])))).has k' y = (m.has k' y || (k' == k && y == x)) := by
  unfold Map.has
  rw [get_set]
  cases h : k' == k
  · exact (Bool.or_false _).symm
  · rw [eq_of_beq h]
    exact ins_contains ..

theorem has_update_filter (z k' y : Nat) (hf : ∀ l, (f l).getD [] = l.filter (· != z)) :
    (m.update k f).has k' y = (m.has k' y && !(k' == k && y == z)) := by
  unfold Map.has
  rw [get_update]
  cases h : k' == k
  · exact (Bool.and_true _).symm
  · rw [eq_of_beq h]
    cases m k with
    | none => rfl
    | some l => exact (congrArg _ (hf l)).trans (filter_ne_contains z y l)

variable {m v f} (hm : m.All P)
include hm

theorem all_getD (h0 : P []) : P ((m k).getD []) := by
  cases h : m k with
  | none => exact h0
  | some l => exact hm k l h

/-- `v.elim True P`: the new value, if it is a list, has the property -/
theorem all_set (hv : v.elim True P) : (m.set k v).All P := by
  intro x l
  rw [get_set]
  cases x == k
  · exact hm x l
  · intro (e : v = some l)
    rwa [e] at hv

theorem all_update (hf : ∀ l, P l → (f l).elim True P) : (m.update k f).All P := by
  unfold Map.update
  cases h : m k with
  | none => exact hm
  | some l => exact all_set k hm (hf l (hm k l h))

end

/-! ### the invariant: the two indexes are inverse, no empty room, no duplicates -/

structure Inv (st : St) : Prop where
  inverse : ∀ s r, memberB st s r = inRoomB st s r
  noEmpty : ∀ r m, st.rooms r = some m → m ≠ []
  nodupS : ∀ s l, st.sids s = some l → l.Nodup
  nodupR : ∀ r m, st.rooms r = some m → m.Nodup

theorem inv_init : Inv {} :=
  ⟨fun _ _ => rfl, nofun, nofun, nofun⟩

variable (st : St) (sid room : Nat) (rs : List Nat) (s r : Nat)

/-! ### joining -/

theorem addOne_memberB : memberB (addOne st sid room) s r = (memberB st s r || (s == sid && r == room)) :=
  has_set_ins st.sids sid room s r

theorem addOne_inRoomB : inRoomB (addOne st sid room) s r = (inRoomB st s r || (s == sid && r == room)) := by
  rw [Bool.and_comm]
  exact has_set_ins st.rooms room sid r s

theorem addOne_inv (h : Inv st) : Inv (addOne st sid room) where
  inverse s r := by rw [addOne_memberB, addOne_inRoomB, h.inverse]
  noEmpty := all_set room h.noEmpty (ins_ne_nil _ _)
  nodupS := all_set sid h.nodupS (ins_nodup _ _ (all_getD sid h.nodupS .nil))
  nodupR := all_set room h.nodupR (ins_nodup _ _ (all_getD room h.nodupR .nil))

theorem foldl_addOne_memberB :
    memberB (rs.foldl (fun s r => addOne s sid r) st) s r = (memberB st s r || (s == sid && rs.contains r)) := by
  induction rs generalizing st with
  | nil => simp
  | cons a t ih => rw [List.foldl_cons, ih, addOne_memberB, List.contains_cons, Bool.and_or_distrib_left, Bool.or_assoc]

/-- an empty entry for a socket that had none: the first step of `addAll` -/
theorem memberB_set_nil (hn : ¬(st.sids sid).isSome) :
    memberB { st with sids := st.sids.set sid (some []) } s r = memberB st s r := by
  rw [Option.not_isSome_iff_eq_none] at hn
  unfold memberB
  simp only [get_set]
  cases h : s == sid
  · rfl
  · rw [eq_of_beq h, hn]
    rfl

theorem addAll_inv (h : Inv st) : Inv (addAll st sid rs) := by
  refine foldl_inv _ _ (fun s r => addOne_inv s sid r) rs _ ?_
  split
  · exact h
  · rename_i hn
    exact ⟨fun s r => (memberB_set_nil st sid s r hn).trans (h.inverse s r), h.noEmpty,
      all_set sid h.nodupS .nil, h.nodupR⟩

/-- joining adds exactly the named memberships -/
theorem addAll_memberB : memberB (addAll st sid rs) s r = (memberB st s r || (s == sid && rs.contains r)) := by
  unfold addAll
  rw [foldl_addOne_memberB]
  split
  · rfl
  · rw [memberB_set_nil st sid s r ‹_›]

/-! ### leaving -/

theorem getD_guard (l : List Nat) : (if l.isEmpty then none else some l).getD [] = l := by
  cases l <;> rfl

theorem delRoomEntry_inRoom (rooms : Map) :
    (delRoomEntry rooms sid room).has r s = (rooms.has r s && !(s == sid && r == room)) := by
  rw [Bool.and_comm (s == sid)]
  exact has_update_filter rooms room _ sid r s fun _ => getD_guard _

theorem delete_memberB : memberB (delete st sid room) s r = (memberB st s r && !(s == sid && r == room)) :=
  has_update_filter st.sids sid _ room s r fun _ => rfl

theorem delete_inRoomB : inRoomB (delete st sid room) s r = (inRoomB st s r && !(s == sid && r == room)) :=
  delRoomEntry_inRoom sid room s r st.rooms

theorem delRoomEntry_noEmpty {rooms : Map} (h : rooms.All (· ≠ [])) : (delRoomEntry rooms sid room).All (· ≠ []) :=
  all_update room h fun l _ => by
    split
    · trivial
    · rwa [List.isEmpty_iff] at *

theorem delRoomEntry_nodup {rooms : Map} (h : rooms.All List.Nodup) : (delRoomEntry rooms sid room).All List.Nodup :=
  all_update room h fun l hl => by
    split
    · trivial
    · exact hl.sublist List.filter_sublist

theorem delete_inv (h : Inv st) : Inv (delete st sid room) where
  inverse s r := by rw [delete_memberB, delete_inRoomB, h.inverse]
  noEmpty := delRoomEntry_noEmpty sid room h.noEmpty
  nodupS := all_update sid h.nodupS fun _ hl => hl.sublist List.filter_sublist
  nodupR := delRoomEntry_nodup sid room h.nodupR

/-! ### leaving everything (disconnect) -/

theorem foldl_del_inRoom (l : List Nat) (rooms : Map) :
    (l.foldl (fun rm r => delRoomEntry rm sid r) rooms).has r s = (rooms.has r s && !(s == sid && l.contains r)) := by
  induction l generalizing rooms with
  | nil => simp
  | cons a t ih =>
    rw [List.foldl_cons, ih, delRoomEntry_inRoom, List.contains_cons, Bool.and_or_distrib_left, Bool.not_or,
      Bool.and_assoc]

theorem deleteAll_sids : (deleteAll st sid).sids = st.sids.update sid fun _ => none := by
  unfold deleteAll Map.update
  cases st.sids sid <;> rfl

theorem deleteAll_rooms :
    (deleteAll st sid).rooms = ((st.sids sid).getD []).foldl (fun rm r => delRoomEntry rm sid r) st.rooms := by
  unfold deleteAll
  cases st.sids sid <;> rfl

theorem deleteAll_memberB : memberB (deleteAll st sid) s r = (memberB st s r && !(s == sid)) := by
  unfold memberB
  rw [deleteAll_sids, get_update]
  cases s == sid
  · exact (Bool.and_true _).symm
  · cases st.sids sid <;> exact (Bool.and_false _).symm

theorem deleteAll_inRoomB (h : memberB st sid r = inRoomB st sid r) :
    inRoomB (deleteAll st sid) s r = (inRoomB st s r && !(s == sid)) := by
  show (deleteAll st sid).rooms.has r s = _
  rw [deleteAll_rooms, foldl_del_inRoom]
  cases hs : s == sid
  · rfl
  · -- the rooms the leaving socket is removed from are exactly its rooms
    rw [eq_of_beq hs]
    show (inRoomB st sid r && !memberB st sid r) = _
    rw [h, Bool.and_not_self]
    exact (Bool.and_false _).symm

theorem deleteAll_inv (h : Inv st) : Inv (deleteAll st sid) where
  inverse s r := by rw [deleteAll_memberB, deleteAll_inRoomB st sid s r (h.inverse sid r), h.inverse]
  noEmpty := by
    rw [deleteAll_rooms]
    exact foldl_inv _ (Map.All · _) (fun _ r h => delRoomEntry_noEmpty sid r h) _ _ h.noEmpty
  nodupS := by
    rw [deleteAll_sids]
    exact all_update sid h.nodupS fun _ _ => trivial
  nodupR := by
    rw [deleteAll_rooms]
    exact foldl_inv _ (Map.All · _) (fun _ r h => delRoomEntry_nodup sid r h) _ _ h.nodupR

/-! ### the target computation of `apply` -/

variable (E : List Nat) (live : Nat → Bool) {T univ members : List Nat} {s}

theorem excepted_eq_false (h : Inv st) : excepted st E s = false ↔ ∀ r ∈ E, memberB st s r = false := by
  simp only [excepted, List.any_eq_false, h.inverse, Bool.not_eq_true]

theorem visitRoom_nodup : ∀ ids : List Nat, ids.Nodup → (visitRoom st E live ids members).Nodup := by
  refine foldl_inv _ _ (fun ids a h => ?_) members
  split
  · exact h
  · rename_i hc
    simp only [Bool.or_eq_true, not_or, List.contains_iff_mem] at hc
    exact nodup_snoc h hc.1.1

theorem mem_visitStep (ids : List Nat) (a : Nat) :
    s ∈ (if ids.contains a || excepted st E a || !live a then ids else ids ++ [a]) ↔
      s ∈ ids ∨ (live s = true ∧ s = a ∧ excepted st E s = false) := by
  split
  · rename_i hc
    refine ⟨Or.inl, fun h => h.elim id ?_⟩
    rintro ⟨h1, rfl, h2⟩
    simpa [h1, h2] using hc
  · rename_i hc
    simp only [Bool.or_eq_true, not_or, Bool.not_eq_true, Bool.not_eq_false'] at hc
    rw [List.mem_append, List.mem_singleton]
    exact or_congr_right ⟨fun e => ⟨e ▸ hc.2, e, e ▸ hc.1.2⟩, fun h => h.2.1⟩

theorem mem_visitRoom (ids : List Nat) :
    s ∈ visitRoom st E live ids members ↔ s ∈ ids ∨ (live s = true ∧ s ∈ members ∧ excepted st E s = false) := by
  induction members generalizing ids with
  | nil => exact (or_iff_left (fun h => nomatch h.2.1)).symm
  | cons a t ih =>
    refine (ih _).trans ?_
    rw [mem_visitStep, List.mem_cons, or_and_right, and_or_left, or_assoc]

/-- visiting the target rooms one after the other is visiting their concatenation -/
theorem applyRooms_eq :
    applyRooms st T E live = visitRoom st E live [] (T.flatMap fun r => (st.rooms r).getD []) :=
  List.foldl_flatMap.symm

theorem applyRooms_nodup : (applyRooms st T E live).Nodup := by
  rw [applyRooms_eq]
  exact visitRoom_nodup st E live [] .nil

theorem mem_applyRooms :
    s ∈ applyRooms st T E live ↔ live s = true ∧ (∃ r ∈ T, inRoomB st s r = true) ∧ excepted st E s = false := by
  simp only [applyRooms_eq, mem_visitRoom, List.mem_flatMap, inRoomB, List.not_mem_nil, false_or, List.contains_iff_mem]

theorem mem_applyAll :
    s ∈ applyAll st E live univ ↔ s ∈ univ ∧ (st.sids s).isSome = true ∧ live s = true ∧ excepted st E s = false := by
  simp only [applyAll, List.mem_filter, Bool.and_eq_true, Bool.not_eq_true', and_right_comm, and_assoc]

theorem excepted_of_mem_apply (h : s ∈ apply st T E live univ) : excepted st E s = false := by
  unfold apply at h
  split at h
  · exact ((mem_applyAll st E live).1 h).2.2.2
  · exact ((mem_applyRooms st E live).1 h).2.2

end SioVerif.Rooms
