import SioVerif.Model.Batcher
namespace SioVerif.Batcher

theorem payloadLen_snoc (cur : List Nat) (x : Nat) (h : cur ≠ []) :
    payloadLen (cur ++ [x]) = payloadLen cur + 1 + x := by
  induction cur using payloadLen.induct with
  | case1 => exact absurd rfl h
  | case2 a => rfl
  | case3 a b t ih =>
    have := ih (List.cons_ne_nil b t)
    simp only [List.cons_append, payloadLen, Nat.add_assoc] at this ⊢
    rw [this]

theorem go_flatten (max : Nat) (cur : List Nat) (size : Nat) (xs : List Nat) :
    (go max cur size xs).flatten = cur ++ xs := by
  induction cur, size, xs using go.induct max with
  | case1 cur size h => simp_all [go]
  | _ => simp [go, *]

/-- the loop invariant: `size` tracks the payload length of the current batch, which is within
    the limit as soon as it holds several packets -/
def Inv (max : Nat) (cur : List Nat) (size : Nat) : Prop :=
  (cur = [] ∧ size = 0) ∨ (cur ≠ [] ∧ size = payloadLen cur + 1 ∧ (2 ≤ cur.length → payloadLen cur ≤ max))

theorem Inv.single (max x : Nat) : Inv max [x] (x + 1) :=
  .inr ⟨List.cons_ne_nil x [], rfl, fun h => absurd h (Nat.not_succ_le_self 1)⟩

/-- a packet joins the current batch only if the size check lets it -/
theorem Inv.snoc {max size x : Nat} {cur : List Nat} (hinv : Inv max cur size)
    (hc : ¬ (!cur.isEmpty && decide (size + x > max)) = true) : Inv max (cur ++ [x]) (size + x + 1) := by
  rcases hinv with ⟨rfl, rfl⟩ | ⟨hne, rfl, _⟩
  · rw [Nat.zero_add]
    exact Inv.single max x
  · refine .inr ⟨by simp, by rw [payloadLen_snoc cur x hne], fun _ => ?_⟩
    rw [payloadLen_snoc cur x hne]
    exact Nat.not_lt.mp fun hgt => hc (by simp [hne, hgt])

theorem Inv.emit {max size : Nat} {cur : List Nat} (hinv : Inv max cur size) (hne : cur ≠ []) :
    cur ≠ [] ∧ (2 ≤ cur.length → payloadLen cur ≤ max) :=
  ⟨hne, hinv.elim (fun h => absurd h.1 hne) fun h => h.2.2⟩

/-- every batch the loop emits is non-empty and, if it holds several packets, within the limit -/
theorem go_batches (max : Nat) (cur : List Nat) (size : Nat) (xs : List Nat) (hinv : Inv max cur size) :
    ∀ b ∈ go max cur size xs, b ≠ [] ∧ (2 ≤ b.length → payloadLen b ≤ max) := by
  induction cur, size, xs using go.induct max with
  | case1 cur size h =>
    rw [go, if_pos h]
    exact nofun
  | case2 cur size h =>
    rw [go, if_neg h, List.forall_mem_singleton]
    exact hinv.emit fun e => h (e ▸ rfl)
  | case3 cur size x xs h ih =>
    rw [go, if_pos h, List.forall_mem_cons]
    exact ⟨hinv.emit (by rintro rfl; cases h), ih (Inv.single max x)⟩
  | case4 cur size x xs h ih =>
    rw [go, if_neg h]
    exact ih (hinv.snoc h)

end SioVerif.Batcher
