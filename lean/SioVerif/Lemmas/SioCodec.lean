import SioVerif.Model.SioCodec
import SioVerif.Lemmas.Basic
namespace SioVerif.Sio

/-! ### decimal printing / parsing -/

theorem digitByte_spec (c : Char) (h : c.isDigit = true) :
    (digitByte c).toNat = c.toNat ∧ isDigit (digitByte c) = true := by
  have hc : 48 ≤ c.toNat ∧ c.toNat ≤ 57 := by
    simp only [Char.isDigit, Bool.and_eq_true, decide_eq_true_eq] at h
    exact h
  have ht : (digitByte c).toNat = c.toNat := UInt8.toNat_ofNat_of_lt (Nat.lt_of_le_of_lt hc.2 (by decide))
  simp [isDigit, ht, hc]

theorem digits_all (n : Nat) : ∀ b ∈ digits n, isDigit b = true := by
  intro b hb
  simp only [digits, List.mem_map] at hb
  obtain ⟨c, hc, rfl⟩ := hb
  exact (digitByte_spec c (Nat.isDigit_of_mem_toDigits (by decide) (by decide) hc)).2

theorem digits_isEmpty (n : Nat) : (digits n).isEmpty = false := by simp [digits]

theorem not_mem_digits {b : UInt8} (hb : isDigit b = false) (n : Nat) : b ∉ digits n :=
  fun h => Bool.false_ne_true (hb ▸ digits_all n b h)

theorem natOfDigits_digits (n : Nat) : natOfDigits (digits n) = n := by
  rw [natOfDigits, digits, List.foldl_map]
  -- on digit characters this fold and that of `Nat.ofDigitChars` take the same steps
  refine Eq.trans (List.foldl_rel (r := Eq) rfl fun c hc a _ e => ?_)
    (Nat.ofDigitChars_toDigits (b := 10) (by decide) (by decide))
  rw [e, (digitByte_spec c (Nat.isDigit_of_mem_toDigits (by decide) (by decide) hc)).1]
  rfl

theorem parseUint_digits (n : Nat) (h : n < 2 ^ 64) : parseUint (digits n) = some n := by
  simp [parseUint, digits_isEmpty, List.all_eq_true.mpr (digits_all n), natOfDigits_digits, h]

/-! ### list helpers -/

theorem cut_append (c : UInt8) (pre post : Bytes) (h : c ∉ pre) : cut c (pre ++ c :: post) = some (pre, post) := by
  induction pre with
  | nil => simp [cut]
  | cons x t ih =>
    rw [List.mem_cons, not_or] at h
    simp [cut, Ne.symm h.1, ih h.2]

theorem takeWhile_append_stop {α : Type} {p : α → Bool} (ds rest : List α) (hd : ∀ b ∈ ds, p b = true)
    (hr : ∀ c t, rest = c :: t → p c = false) :
    (ds ++ rest).takeWhile p = ds ∧ (ds ++ rest).dropWhile p = rest := by
  rw [List.takeWhile_append_of_pos hd, List.dropWhile_append_of_pos hd]
  cases rest with
  | nil => simp
  | cons c t => simp [List.takeWhile, List.dropWhile, hr c t rfl]

theorem head_append_of {α : Type} {Q : α → Prop} (ds rest : List α) (hd : ∀ b ∈ ds, Q b)
    (hr : ∀ c t, rest = c :: t → Q c) : ∀ c t, ds ++ rest = c :: t → Q c := by
  cases ds with
  | nil => exact hr
  | cons x xs =>
    intro c t e
    injection e with e _
    exact e ▸ hd x List.mem_cons_self

/-! ### header round trip -/

def Header.Wf (h : Header) : Prop :=
  h.type ≤ 6 ∧
  (h.nsp = [] ∨ h.nsp = [slash] ∨ (h.nsp.head? = some slash ∧ comma ∉ h.nsp)) ∧
  (∀ n, h.id = some n → n < 2 ^ 64) ∧
  h.att < 2 ^ 63

/-- what the decoder reports: `""` is the default namespace `/`; the attachment count only exists
    for the binary types -/
def Header.norm (h : Header) : Header :=
  { h with nsp := if h.nsp = [] then [slash] else h.nsp, att := if isBinaryType h.type then h.att else 0 }

/-- the bytes after the header start like JSON does: not with a digit and not with `/` -/
def JsonStart (j : Bytes) : Prop :=
  ∀ c t, j = c :: t → isDigit c = false ∧ c ≠ slash

theorem parseAttachments_encoded (t att : Nat) (hatt : att < 2 ^ 63) (rest : Bytes)
    (hne : isBinaryType t = true → rest ≠ []) :
    parseAttachments t (attPart t att ++ rest) = .ok (if isBinaryType t then att else 0, rest) := by
  cases hb : isBinaryType t
  · simp only [parseAttachments, attPart, hb]
    rfl
  · have hcut := cut_append dash (digits att) rest (not_mem_digits (by decide) att)
    have hu := parseUint_digits att (Nat.lt_trans hatt (by decide))
    have he := List.isEmpty_eq_false_iff.mpr (hne hb)
    simp only [parseAttachments, attPart, hb, ↓reduceIte, List.append_assoc, List.singleton_append, hcut, hu,
      Nat.not_le.mpr hatt, he, Bool.false_eq_true]

theorem parseNamespace_default (rest : Bytes) (hr : ∀ c t, rest = c :: t → c ≠ slash) :
    parseNamespace rest = ([slash], rest) := by
  cases rest with
  | nil => rfl
  | cons c t => simp [parseNamespace, hr c t rfl]

theorem parseNamespace_encoded (nsp : Bytes)
    (hn : nsp = [] ∨ nsp = [slash] ∨ (nsp.head? = some slash ∧ comma ∉ nsp))
    (rest : Bytes) (hr : ∀ c t, rest = c :: t → c ≠ slash) :
    parseNamespace (nspPart nsp ++ rest) =
      (if nsp = [] then [slash] else nsp, rest) := by
  unfold nspPart
  split
  · rename_i h
    obtain ⟨hs, hc⟩ := (hn.resolve_left h.1).resolve_left h.2
    obtain ⟨xs, rfl⟩ := List.head?_eq_some_iff.mp hs
    have := cut_append comma (slash :: xs) rest hc
    simp only [List.cons_append] at this
    simp [parseNamespace, this]
  · rename_i h
    rw [List.nil_append, parseNamespace_default rest hr]
    by_cases h0 : nsp = []
    · simp [h0]
    · simp [Decidable.not_not.mp fun h1 => h ⟨h0, h1⟩]

theorem idPart_all (id : Option Nat) : ∀ b ∈ idPart id, isDigit b = true := by
  cases id with
  | none => exact fun _ h => nomatch h
  | some n => exact digits_all n

theorem parseId_encoded (id : Option Nat) (hid : ∀ n, id = some n → n < 2 ^ 64) (j : Bytes) (hj : JsonStart j) :
    parseId (idPart id ++ j) = .ok (id, j) := by
  have hs := takeWhile_append_stop (idPart id) j (idPart_all id) (fun c t e => (hj c t e).1)
  simp only [parseId, hs.1, hs.2]
  cases id with
  | none => rfl
  | some n => simp [idPart, digits_isEmpty, parseUint_digits n (hid n rfl)]

/-- `parseHeader` reads back exactly the header `encodeHeader` printed, whatever JSON follows -/
theorem parseHeader_encodeHeader (J : Oracle) (h : Header) (j : Bytes) (hw : h.Wf) (hj : JsonStart j)
    (hne : isBinaryType h.type = true → j ≠ []) :
    parseHeader J (encodeHeader h ++ j) = finishParse J h.norm j := by
  obtain ⟨ht, hn, hid, hatt⟩ := hw
  have h54 : h.type + 48 ≤ 54 := Nat.add_le_add_right ht 48
  have htc : (UInt8.ofNat (h.type + 48)).toNat = h.type + 48 :=
    UInt8.toNat_ofNat_of_lt (Nat.lt_of_le_of_lt h54 (by decide))
  -- the id digits, or else the JSON, stop the namespace scan
  have hIj : ∀ c t, idPart h.id ++ j = c :: t → c ≠ slash :=
    head_append_of _ _ (fun b hb e => absurd (e ▸ idPart_all _ b hb) (by decide)) (fun c t e => (hj c t e).2)
  have hatts := parseAttachments_encoded h.type h.att hatt (nspPart h.nsp ++ (idPart h.id ++ j))
    (fun hb e => hne hb (List.append_eq_nil_iff.mp (List.append_eq_nil_iff.mp e).2).2)
  simp only [parseHeader, encodeHeader, List.cons_append, htc, Nat.not_lt.mpr (Nat.le_add_left 48 h.type),
    Nat.not_lt.mpr h54, or_self, ↓reduceIte, Nat.add_sub_cancel, parseBody, List.append_assoc, hatts, Outcome.bind,
    parseNamespace_encoded h.nsp hn _ hIj, parseId_encoded h.id hid j hj]
  rfl

/-! ### the header fields never panic -/

theorem parseAttachments_no_panic (t : Nat) (data : Bytes) : (parseAttachments t data).isPanic = false := by
  unfold parseAttachments
  refine ite_ind (Outcome.isPanic · = false) ?_ rfl
  split
  · rfl
  · split
    · rfl
    · exact ite_ind (Outcome.isPanic · = false) rfl rfl

theorem parseId_no_panic (data : Bytes) : (parseId data).isPanic = false := by
  simp only [parseId]
  refine ite_ind (Outcome.isPanic · = false) rfl ?_
  split <;> rfl

/-! ### event-name scan -/

/-- a JSON string body as encoding/json emits it: single bytes other than `"` and `\`, or a
    backslash followed by one byte -/
inductive EscapeUnits : Bytes → Prop where
  | nil : EscapeUnits []
  | plain (c : UInt8) (rest : Bytes) : c ≠ quote → c ≠ backslash → EscapeUnits rest → EscapeUnits (c :: rest)
  | esc (c : UInt8) (rest : Bytes) : EscapeUnits rest → EscapeUnits (backslash :: c :: rest)

theorem scanBody_units (body rest : Bytes) (hb : EscapeUnits body) :
    scanBody (body ++ quote :: rest) false = some (body ++ [quote]) := by
  induction hb with
  | nil => simp [scanBody, quote, backslash]
  | plain c r h1 h2 _ ih => simp [scanBody, h1, h2, ih]
  | esc c r _ ih => simp [scanBody, ih]

/-- the pre-scan finds exactly the first string of the array, for every string body JSON can
    emit — quotes, backslashes and a trailing backslash included -/
theorem scanName_sound (pre body rest : Bytes) (hp : quote ∉ pre) (hb : EscapeUnits body) :
    scanName (pre ++ quote :: (body ++ quote :: rest)) = some (quote :: (body ++ [quote])) := by
  have hdw := (takeWhile_append_stop (p := (· ≠ quote)) pre (quote :: (body ++ quote :: rest))
    (fun b hb => decide_eq_true fun e => hp (e ▸ hb)) (fun c t e => by cases e; simp)).2
  rw [scanName, hdw]
  simp only [scanBody_units body rest hb, Option.map_some]

/-! ### reassembly never wedges -/

/-- a pending packet always waits for a positive number of frames -/
def PendingOk (st : Option Pending) : Prop := ∀ r, st = some r → 0 < r.remaining

theorem pendingOk_none : PendingOk none := fun _ h => nomatch h

theorem pendingOk_some {r : Pending} (h : 0 < r.remaining) : PendingOk (some r) :=
  fun _ e => Option.some.inj e ▸ h

theorem parseHeader_att_nonneg (J : Oracle) (d : Bytes) (p : Parsed) (_h : parseHeader J d = .ok p) :
    (0 : Int) ≤ p.header.att := Int.natCast_nonneg _

theorem pred_pos {n : Int} (h0 : 0 < n) (h1 : n ≠ 1) : 0 < n - 1 :=
  Int.sub_pos.mpr (Int.lt_iff_le_and_ne.mpr ⟨h0, Ne.symm h1⟩)

theorem add_pending_last {J : Oracle} {maxAtt : Nat} {r : Pending} {f : Bytes} (h : r.remaining = 1) :
    add J maxAtt (some r) f = (none, .finish r.header (r.nbuf + 1)) := by
  simp [add, h]

theorem add_pending_more {J : Oracle} {maxAtt : Nat} {r : Pending} {f : Bytes} (h : r.remaining ≠ 1) :
    add J maxAtt (some r) f =
      (some { r with remaining := r.remaining - 1, nbuf := r.nbuf + 1 }, .pending (r.remaining - 1)) := by
  have : ¬ r.remaining - 1 = 0 := fun e => h (Int.eq_of_sub_eq_zero e)
  simp [add, this]

theorem add_idle_ok {J : Oracle} {maxAtt : Nat} {f : Bytes} {p : Parsed} (hp : parseHeader J f = .ok p)
    (hmax : maxAtt = 0 ∨ p.header.att ≤ maxAtt) :
    add J maxAtt none f =
      if !isBinaryType p.header.type || p.header.att == 0 then (none, .finish p.header 1)
      else (some ⟨p.header, p.header.att, 1⟩, .pending p.header.att) := by
  have : ¬ (maxAtt > 0 ∧ p.header.att > maxAtt) :=
    fun ⟨h0, h1⟩ => hmax.elim (Nat.ne_of_gt h0) (Nat.not_le.mpr h1)
  simp only [add, hp, this, ↓reduceIte]

theorem add_preserves (J : Oracle) (maxAtt : Nat) (st : Option Pending) (frame : Bytes) (h : PendingOk st) :
    PendingOk (add J maxAtt st frame).1 := by
  cases st with
  | none =>
    cases hp : parseHeader J frame with
    | ok p =>
      simp only [add, hp]
      by_cases hmax : maxAtt > 0 ∧ p.header.att > maxAtt
      · rw [if_pos hmax]
        exact pendingOk_some (Int.natCast_pos.mpr (Nat.zero_lt_of_lt hmax.2))
      · -- a packet is left pending only if it is binary and announces `k + 1` attachments
        rw [if_neg hmax]
        cases hb : isBinaryType p.header.type
        · exact pendingOk_none
        · cases ha : p.header.att with
          | zero => exact pendingOk_none
          | succ k => exact pendingOk_some (Int.natCast_pos.mpr (Nat.succ_pos k))
    | error e => simp only [add, hp]; exact pendingOk_none
    | panic w => simp only [add, hp]; exact pendingOk_none
  | some r =>
    by_cases h1 : r.remaining = 1
    · rw [add_pending_last h1]
      exact pendingOk_none
    · rw [add_pending_more h1]
      exact pendingOk_some (pred_pos (h r rfl) h1)

def addMany (J : Oracle) (maxAtt : Nat) : Option Pending → List Bytes → Option Pending
  | st, [] => st
  | st, f :: fs => addMany J maxAtt (add J maxAtt st f).1 fs

theorem addMany_preserves (J : Oracle) (maxAtt : Nat) (fs : List Bytes) : ∀ st, PendingOk st →
    PendingOk (addMany J maxAtt st fs) := by
  induction fs with
  | nil => intro st h; exact h
  | cons f fs ih => intro st h; exact ih _ (add_preserves J maxAtt st f h)

/-- a pending packet is completed by exactly as many further frames as it waits for, whatever they contain -/
theorem pending_finishes (J : Oracle) (maxAtt : Nat) (fs : List Bytes) : ∀ r : Pending,
    0 < r.remaining → (fs.length : Int) = r.remaining → addMany J maxAtt (some r) fs = none := by
  induction fs with
  | nil => intro r hr hl; exact absurd hl (Int.ne_of_lt hr)
  | cons f fs ih =>
    intro r hr hl
    rw [List.length_cons, Int.natCast_succ] at hl
    have hl' : (fs.length : Int) = r.remaining - 1 := by rw [← hl, Int.add_sub_cancel]
    by_cases h1 : r.remaining = 1
    · have : fs = [] := List.eq_nil_of_length_eq_zero (Int.natCast_eq_zero.mp (by rw [hl', h1]; rfl))
      rw [addMany, add_pending_last h1, this, addMany]
    · rw [addMany, add_pending_more h1]
      exact ih _ (pred_pos hr h1) hl'

/-! ### placeholders -/

theorem deconstruct_count (t : Tree) (k : Nat) :
    (deconstruct t k).2.1.length = countBin t ∧ (deconstruct t k).2.2 = k + countBin t := by
  induction t generalizing k with
  | cons hd tl ih1 ih2 => simp only [deconstruct, countBin, List.length_append, ih1, ih2, Nat.add_assoc, and_self]
  | _ => exact ⟨rfl, rfl⟩

theorem getElem?_mid (pre mid post : List Bytes) (i : Nat) (h : i < mid.length) :
    (pre ++ mid ++ post)[pre.length + i]? = mid[i]? := by
  rw [List.append_assoc, List.getElem?_append_right (Nat.le_add_right _ _), Nat.add_sub_cancel_left,
    List.getElem?_append_left h]

/-- attachments survive: deconstructing a tree and reconstructing it against the produced
    frames (embedded anywhere in a longer frame list at the right offset) restores the tree -/
theorem reconstruct_deconstruct (t : Tree) (hp : noPh t = true) : ∀ (k : Nat) (pre post : List Bytes),
    pre.length = k →
    reconstruct (deconstruct t k).1 (pre ++ ((deconstruct t k).2.1 ++ post)) = .ok t := by
  induction t with
  | bin b =>
    intro k pre post hk
    subst hk
    simp [deconstruct, reconstruct]
  | ph n => cases hp
  | cons hd tl ih1 ih2 =>
    intro k pre post hk
    simp only [noPh, Bool.and_eq_true] at hp
    have c1 := deconstruct_count hd k
    simp only [deconstruct, reconstruct, List.append_assoc]
    -- the frames of `tl` are part of what follows those of `hd`, the frames of `hd` of what precedes those of `tl`
    rw [ih1 hp.1 k pre _ hk, ← List.append_assoc pre,
      ih2 hp.2 _ _ post (by rw [List.length_append, c1.1, c1.2, hk])]
    rfl
  | _ => intros; rfl

end SioVerif.Sio
