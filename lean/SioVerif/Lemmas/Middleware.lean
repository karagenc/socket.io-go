import SioVerif.Model.Middleware
namespace SioVerif.Mw

/-- an accepting prefix is called in order, then the rest of the chain runs from the next index -/
theorem runChain_append (pre rest : List Verdict) (hpre : ∀ v ∈ pre, v = .accept) : ∀ i,
    runChain i (pre ++ rest) = (List.range' i pre.length).map .mwCalled ++ runChain (i + pre.length) rest := by
  induction pre with
  | nil => exact fun _ => rfl
  | cons a pre ih =>
    intro i
    cases hpre a List.mem_cons_self
    rw [List.cons_append, runChain, ih fun v hv => hpre v (List.mem_cons_of_mem _ hv), List.length_cons,
      List.range'_succ, Nat.add_right_comm]
    rfl

end SioVerif.Mw
