import SioVerif.Model.Base64
namespace SioVerif.B64

theorem decChar_encChar (s : Nat) (h : s < 64) : decChar (encChar s) = some s := by
  have : ∀ t : Fin 64, decChar (encChar t.val) = some t.val := by decide
  exact this ⟨s, h⟩

@[simp] theorem decChar_pad : decChar pad = none := by decide
@[simp] theorem isNL_pad : isNL pad = false := by decide

/-! Two digits in positional notation. -/

theorem mul_add_lt {q k n m : Nat} (hq : q < k) (hn : n < m) : q * m + n < k * m :=
  Nat.lt_of_lt_of_le (Nat.add_lt_add_left hn _) (Nat.succ_mul q m ▸ Nat.mul_le_mul_right m hq)

theorem mul_add_div_of_lt {m n : Nat} (q : Nat) (hn : n < m) : (q * m + n) / m = q := by
  rw [Nat.mul_comm, Nat.mul_add_div (Nat.zero_lt_of_lt hn), Nat.div_eq_of_lt hn, Nat.add_zero]

/-! The sextets `enc` cuts from the bytes of a quantum are below 64 and recombine to the bytes.
    A sextet joins the low bits of one byte with the high bits `n` of the next; before padding
    there is no next byte and no `n`. -/

theorem div4_lt (a : UInt8) : a.toNat / 4 < 64 := Nat.div_lt_of_lt_mul a.toNat_lt
theorem div16_lt (a : UInt8) : a.toNat / 16 < 16 := Nat.div_lt_of_lt_mul a.toNat_lt
theorem div64_lt (a : UInt8) : a.toNat / 64 < 4 := Nat.div_lt_of_lt_mul a.toNat_lt

theorem sextet1_lt (a : UInt8) {n : Nat} (hn : n < 16) : a.toNat % 4 * 16 + n < 64 :=
  mul_add_lt (k := 4) (Nat.mod_lt _ (by decide)) hn

theorem sextet2_lt (b : UInt8) {n : Nat} (hn : n < 4) : b.toNat % 16 * 4 + n < 64 :=
  mul_add_lt (k := 16) (Nat.mod_lt _ (by decide)) hn

theorem sextet1_lt_pad (a : UInt8) : a.toNat % 4 * 16 < 64 := by simpa using sextet1_lt a (n := 0)
theorem sextet2_lt_pad (b : UInt8) : b.toNat % 16 * 4 < 64 := by simpa using sextet2_lt b (n := 0)

/-- stated through `s1 / 16` so that it covers the sextet with and without a next byte -/
theorem b1_sextets (a : UInt8) {s1 : Nat} (h : s1 / 16 = a.toNat % 4) : b1 (a.toNat / 4) s1 = a := by
  rw [b1, h, Nat.div_add_mod', UInt8.ofNat_toNat]

theorem b2_sextets (p : Nat) (b : UInt8) {s2 : Nat} (h : s2 / 4 = b.toNat % 16) :
    b2 (p * 16 + b.toNat / 16) s2 = b := by
  rw [b2, Nat.mul_add_mod_of_lt (div16_lt b), h, Nat.div_add_mod', UInt8.ofNat_toNat]

theorem b3_sextets (p : Nat) (c : UInt8) : b3 (p * 4 + c.toNat / 64) (c.toNat % 64) = c := by
  rw [b3, Nat.mul_add_mod_of_lt (div64_lt c), Nat.div_add_mod', UInt8.ofNat_toNat]

attribute [local simp] decChar_encChar div4_lt div16_lt div64_lt sextet1_lt sextet2_lt sextet1_lt_pad
  sextet2_lt_pad Nat.mod_lt mul_add_div_of_lt b1_sextets b2_sextets b3_sextets

/-- `Decode(Encode x) = x` for Go's StdEncoding -/
theorem dec_enc (x : Bytes) : dec (enc x) = some x := by
  unfold dec
  induction x using enc.induct <;> simp [enc, decAux, skipNL, *]

theorem encodedLen_add_three (n : Nat) : encodedLen (n + 3) = encodedLen n + 4 := by
  rw [encodedLen, Nat.add_right_comm, Nat.add_div_right _ (by decide), Nat.succ_mul, encodedLen]

theorem enc_length (x : Bytes) : (enc x).length = encodedLen x.length := by
  induction x using enc.induct with
  | case4 a b c rest ih => simp [enc, ih, encodedLen_add_three]
  | _ => simp [enc, encodedLen]

theorem ne_encChar {d : UInt8} (hd : decChar d = none) {s : Nat} (h : s < 64) : d ≠ encChar s := by
  intro e
  rw [e, decChar_encChar s h] at hd
  cases hd

/-- base64 output never contains a given non-alphabet byte (used for the record separator) -/
theorem enc_not_mem (x : Bytes) (d : UInt8) (hd : decChar d = none) (hp : d ≠ pad) : d ∉ enc x := by
  induction x using enc.induct <;> simp [enc, ne_encChar hd, *]

end SioVerif.B64
