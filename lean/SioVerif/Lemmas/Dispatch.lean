import SioVerif.Model.Dispatch
namespace SioVerif.Dispatch

/-- Everything `onPacket` can answer to a packet for namespace `n`, with what each answer presupposes.
    Facts about all packets are proved by cases on this instead of on the definition. -/
inductive Answer (served accepts : Nat → Bool) (c : Conn) (n : Nat) : Conn × List Eff → Prop
  | ignored : Answer served accepts c n (c, [])
  | closes : Answer served accepts c n ({ isOpen := false, attached := [] }, [.closeAll])
  | refused : Answer served accepts c n (c, [.connErr n])
  | attaches : served n = true → accepts n = true →
      Answer served accepts c n ({ c with attached := c.attached ++ [n] }, [.attach n])
  | delivers ev : n ∈ c.attached → Answer served accepts c n (c, [.deliver n ev])
  | acks id : n ∈ c.attached → Answer served accepts c n (c, [.ackTo n id])
  | detaches : n ∈ c.attached →
      Answer served accepts c n ({ c with attached := c.attached.filter (· != n) }, [.detach n])

theorem onPacket_answer (served accepts : Nat → Bool) (c : Conn) (p : Pkt) :
    Answer served accepts c p.nsp (onPacket served accepts c p) := by
  unfold onPacket
  by_cases ho : (!c.isOpen) = true
  · rw [if_pos ho]
    exact .ignored
  · rw [if_neg ho]
    -- once the membership test is decided, each packet kind computes to its answer (checked by `exact`)
    cases hn : c.attached.contains p.nsp
    · cases p with
      | connect n =>
        dsimp only
        cases hs : served n
        · exact .refused
        · cases ha : accepts n
          · exact .refused
          · exact .attaches hs ha
      | _ => exact .closes
    · have hn := List.contains_iff_mem.mp hn
      cases p with
      | event n ev => exact .delivers ev hn
      | ack n id => exact .acks id hn
      | disconnect n => exact .detaches hn
      | _ => exact .closes

end SioVerif.Dispatch
